/-
  The field extractors of the encoder model (the Rust guards and casts) accept exactly the ranges
  the ISA allows and yield the two's-complement field — for every i64 value.  In front: what the
  encoder theorems compare (`wordsOf`, `armWords`, `regsOk`, and `Props.Enc.mWords` / `sWords`: the
  model and the spec at the level of resolved operands), placed here so that `Lemmas/Resolve` can
  speak of them.
-/
import Avra.Model.Encode
namespace Avra.Lemmas
open Avra.Model Avra.Isa

def wordsOf : W → Option (List Nat)
  | some (w, none) => some [w]
  | some (w, some w2) => some [w, w2]
  | none => none

/-- the words of an arm of `process` behind its operand-count check (`ks`: the counts the arity table allows) -/
def armWords (ks : List Nat) (args : List AArg) (w : W) : Option (List Nat) :=
  if !ks.contains args.length then none else wordsOf w

/-- registers among resolved operands are real registers (what the parser and `.def` yield) -/
def regsOk : List AArg → Prop
  | [] => True
  | .reg n :: rest => n < 32 ∧ regsOk rest
  | _ :: rest => regsOk rest

end Avra.Lemmas

namespace Avra.Props.Enc
open Avra.Model Avra.Isa Avra.Lemmas

/-- the model's `process` at the level of resolved operands: opcode/length row from the table
    extracted from the code, operand-count check, arm of `process` -/
def mWords (avr8l : Bool) (op : Op) (args : List AArg) (addr : Nat) : Option (List Nat) :=
  match info avr8l op with
  | none => none
  | some (_, base) =>
    if !(allowedArgs op).contains args.length then none else wordsOf (encodeR avr8l op args addr base)

/-- the independent spec: legality, then the manual's bit patterns -/
def sWords (avr8l : Bool) (op : Op) (args : List AArg) (addr : Nat) : Option (List Nat) :=
  (surface avr8l op args addr).map encode

end Avra.Props.Enc

namespace Avra.Lemmas
open Avra.Model Avra.Isa

theorem fByte_eq_imm8 (v : Int) : fByte v = imm8 v := by
  unfold fByte imm8 inRange asU
  by_cases h : v > 255 ∨ v < -128
  · have : ¬ ((-128 : Int) ≤ v ∧ v ≤ 255) := by omega
    simp [h, this]
  · have : ((-128 : Int) ≤ v ∧ v ≤ 255) := by omega
    simp [h, this]

theorem imm8_lt (v : Int) (k : Nat) (h : imm8 v = some k) : k < 256 := by
  unfold imm8 at h; split at h
  · injection h with h; omega
  · contradiction

/-- `as u8` then `as i8` on a value that `get_byte` accepts: 128..255 come back negative -/
theorem u8AsI8_asU (v : Int) (h : -128 ≤ v ∧ v ≤ 255) :
    u8AsI8 (asU 8 v) = if v < 128 then v else v - 256 := by
  unfold u8AsI8 asU
  omega

/-- `get_byte(..)? as i8` followed by `k < 0 || k > hi` accepts exactly 0..hi (hi ≤ 127) -/
theorem fSmall_spec (hi : Int) (hhi : 0 ≤ hi ∧ hi ≤ 127) (v : Int) :
    fSmall hi v = if inRange 0 hi v then some v.toNat else none := by
  unfold fSmall fByte inRange
  by_cases h : v > 255 ∨ v < -128
  · rw [if_pos h, if_neg (by simp; omega)]
  · rw [if_neg h]
    simp only [u8AsI8_asU v (by omega), Bool.and_eq_true, decide_eq_true_eq]
    by_cases h0 : 0 ≤ v ∧ v ≤ hi
    · rw [if_pos (by omega : v < 128), if_pos h0, if_neg (by omega)]
    · rw [if_neg h0]
      by_cases h1 : v < 128
      · rw [if_pos h1, if_pos (by omega)]
      · rw [if_neg h1, if_pos (by omega)]

theorem fBit_spec (v : Int) : fBit v = if inRange 0 7 v then some v.toNat else none := by
  unfold fBit inRange
  by_cases h : v < 0 ∨ v > 7
  · have : ¬ ((0 : Int) ≤ v ∧ v ≤ 7) := by omega
    simp [h, this]
  · have : ((0 : Int) ≤ v ∧ v ≤ 7) := by omega
    simp [h, this]

theorem asU_and_mask (n : Nat) (hn : n ≤ 16) (v : Int) : asU 16 v &&& (2 ^ n - 1) = twos n v := by
  unfold asU twos
  rw [Nat.and_two_pow_sub_one_eq_mod]
  have hd : ((2 : Int) ^ n) ∣ 2 ^ 16 := ⟨2 ^ (16 - n), by rw [← Int.pow_add]; congr 1; omega⟩
  have h0 : (0 : Int) ≤ v % 2 ^ 16 := Int.emod_nonneg _ (by decide)
  have hp : (0 : Int) < 2 ^ n := Int.pow_pos (by decide)
  apply Int.ofNat_inj.mp
  rw [Int.toNat_of_nonneg (Int.emod_nonneg _ (Int.ne_of_gt hp))]
  simp only [Int.natCast_emod, Int.toNat_of_nonneg h0, Int.natCast_pow, Int.cast_ofNat_Int]
  exact Int.emod_emod_of_dvd v hd

/-- `n`: 12 for rjmp/rcall, 7 for the branches -/
theorem fRel_spec (lo hi : Int) (n : Nat) (hn : n ≤ 16) (addr : Nat) (t : Int) :
    fRel lo hi (2 ^ n - 1) addr t =
      if inRange lo hi (relOf addr t) then some (twos n (relOf addr t)) else none := by
  simp only [fRel, asU_and_mask n hn]
  show (if relOf addr t < lo ∨ relOf addr t > hi then none else some (twos n (relOf addr t))) = _
  generalize relOf addr t = rel
  unfold inRange
  by_cases h : rel < lo ∨ rel > hi
  · have : ¬ (lo ≤ rel ∧ rel ≤ hi) := by omega
    simp [h, this]
  · have : lo ≤ rel ∧ rel ≤ hi := by omega
    simp [h, this]


end Avra.Lemmas
