/-
  The selected lines of a conditional tree: `sel` agrees with `run`, and — when evaluating a
  condition does not change the state — assembling just the selected lines gives the same state.
  (Spec level: any notion of state, line execution and condition.)  What a successful `sel` of a
  construct, a list of blocks or a list of arms consists of is said once (`sel_cond_ok`,
  `sel_cons_ok`); every induction over `sel` goes through these.
-/
import Avra.Spec.Cond
namespace Avra.Spec

variable {St F : Type} {exec : St → Line → Res St F} {holds : St → Line → Res (St × Bool) F}

theorem Block.sel_plain_ok {l : Line} {s s' : St} {ls : List Line}
    (h : (Block.plain l).sel exec holds s = .ok (s', ls)) : exec s l = .ok s' ∧ ls = [l] := by
  simp only [Block.sel] at h
  split at h
  · rename_i he; cases h; exact ⟨he, rfl⟩
  · cases h

theorem Block.sel_cond_ok {hd endl : Line} {body : Blocks} {arms : Arms} {els : ElseArm} {s s' : St} {ls : List Line}
    (h : (Block.cond hd body arms els endl).sel exec holds s = .ok (s', ls)) :
    ∃ st, (holds s hd = .ok (st, true) ∧ body.sel exec holds st = .ok (s', ls)) ∨
      (holds s hd = .ok (st, false) ∧
        (arms.sel exec holds st = .ok (s', ls, true) ∨
          ∃ st2 l2, arms.sel exec holds st = .ok (st2, l2, false) ∧ els.sel exec holds st2 = .ok (s', ls))) := by
  simp only [Block.sel] at h
  split at h
  · cases h
  · rename_i st hh; exact ⟨st, .inl ⟨hh, h⟩⟩
  · rename_i st hh
    refine ⟨st, .inr ⟨hh, ?_⟩⟩
    split at h
    · cases h
    · rename_i ha; cases h; exact .inl ha
    · rename_i st2 l2 ha; exact .inr ⟨st2, l2, ha, h⟩

theorem Blocks.sel_cons_ok {b : Block} {bs : Blocks} {s s' : St} {ls : List Line}
    (h : (Blocks.cons b bs).sel exec holds s = .ok (s', ls)) :
    ∃ st l1 l2, b.sel exec holds s = .ok (st, l1) ∧ bs.sel exec holds st = .ok (s', l2) ∧ ls = l1 ++ l2 := by
  simp only [Blocks.sel] at h
  split at h
  · rename_i st l1 hb
    split at h
    · rename_i l2 hbs; cases h; exact ⟨st, l1, l2, hb, hbs, rfl⟩
    · cases h
  · cases h

theorem Arms.sel_cons_ok {l : Line} {body : Blocks} {rest : Arms} {s s' : St} {ls : List Line} {t : Bool}
    (h : (Arms.cons l body rest).sel exec holds s = .ok (s', ls, t)) :
    ∃ st, (holds s l = .ok (st, true) ∧ t = true ∧ body.sel exec holds st = .ok (s', ls)) ∨
      (holds s l = .ok (st, false) ∧ rest.sel exec holds st = .ok (s', ls, t)) := by
  simp only [Arms.sel] at h
  split at h
  · cases h
  · rename_i st hh
    refine ⟨st, .inl ⟨hh, ?_⟩⟩
    split at h
    · rename_i hb; cases h; exact ⟨rfl, hb⟩
    · cases h
  · rename_i st hh; exact ⟨st, .inr ⟨hh, h⟩⟩

end Avra.Spec

namespace Avra.Lemmas.Sel
open Avra.Spec

variable {St F : Type} (exec : St → Line → Res St F) (holds : St → Line → Res (St × Bool) F)

mutual
theorem block_sel_run : ∀ (b : Block) (s s' : St) (ls : List Line),
    b.sel exec holds s = .ok (s', ls) → b.run exec holds s = .ok s'
  | .plain l, s, s', ls, h => (Block.sel_plain_ok h).1
  | .cond hd body arms els endl, s, s', ls, h => by
    obtain ⟨st, ⟨hh, hb⟩ | ⟨hh, ha | ⟨st2, l2, ha, he⟩⟩⟩ := Block.sel_cond_ok h
    · simp only [Block.run, hh]; exact blocks_sel_run body st s' ls hb
    · simp only [Block.run, hh, arms_sel_run arms st s' ls true ha]
    · simp only [Block.run, hh, arms_sel_run arms st st2 l2 false ha]; exact else_sel_run els st2 s' ls he
theorem blocks_sel_run : ∀ (bs : Blocks) (s s' : St) (ls : List Line),
    bs.sel exec holds s = .ok (s', ls) → bs.run exec holds s = .ok s'
  | .nil, s, s', ls, h => by cases h; rfl
  | .cons b bs, s, s', ls, h => by
    obtain ⟨st, l1, l2, hb, hbs, _⟩ := Blocks.sel_cons_ok h
    simp only [Blocks.run, block_sel_run b s st l1 hb]
    exact blocks_sel_run bs st s' l2 hbs
theorem arms_sel_run : ∀ (a : Arms) (s s' : St) (ls : List Line) (t : Bool),
    a.sel exec holds s = .ok (s', ls, t) → a.run exec holds s = .ok (s', t)
  | .nil, s, s', ls, t, h => by cases h; rfl
  | .cons l body rest, s, s', ls, t, h => by
    obtain ⟨st, ⟨hh, rfl, hb⟩ | ⟨hh, hr⟩⟩ := Arms.sel_cons_ok h
    · simp only [Arms.run, hh, blocks_sel_run body st s' ls hb]
    · simp only [Arms.run, hh]; exact arms_sel_run rest st s' ls t hr
theorem else_sel_run : ∀ (e : ElseArm) (s s' : St) (ls : List Line),
    e.sel exec holds s = .ok (s', ls) → e.run exec holds s = .ok s'
  | .none, s, s', ls, h => by cases h; rfl
  | .some l body, s, s', ls, h => blocks_sel_run body s s' ls h
end

def PureConds (cl : List Line) : Prop :=
  ∀ l ∈ cl, ∀ (s s' : St) (b : Bool), holds s l = .ok (s', b) → s' = s

mutual
theorem block_sel_lines : ∀ (b : Block), PureConds holds b.condLines → ∀ (s s' : St) (ls : List Line),
    b.sel exec holds s = .ok (s', ls) → runLines exec ls s = .ok s'
  | .plain l, _, s, s', ls, h => by
    obtain ⟨he, rfl⟩ := Block.sel_plain_ok h
    simp only [runLines, he]
  | .cond hd body arms els endl, hp, s, s', ls, h => by
    simp only [PureConds, Block.condLines, List.forall_mem_cons, List.forall_mem_append] at hp
    obtain ⟨st, ⟨hh, hb⟩ | ⟨hh, ha | ⟨st2, l2, ha, he⟩⟩⟩ := Block.sel_cond_ok h <;>
      obtain rfl : st = s := hp.1 s st _ hh
    · exact blocks_sel_lines body hp.2.1 st s' ls hb
    · exact (arms_sel_lines arms hp.2.2.1 st s' ls true ha).1
    · obtain rfl : st2 = st := (arms_sel_lines arms hp.2.2.1 st st2 l2 false ha).2 rfl
      exact else_sel_lines els hp.2.2.2 st2 s' ls he
theorem blocks_sel_lines : ∀ (bs : Blocks), PureConds holds bs.condLines → ∀ (s s' : St) (ls : List Line),
    bs.sel exec holds s = .ok (s', ls) → runLines exec ls s = .ok s'
  | .nil, _, s, s', ls, h => by cases h; rfl
  | .cons b bs, hp, s, s', ls, h => by
    simp only [PureConds, Blocks.condLines, List.forall_mem_append] at hp
    obtain ⟨st, l1, l2, hb, hbs, rfl⟩ := Blocks.sel_cons_ok h
    rw [runLines_append exec l1 l2 s st (block_sel_lines b hp.1 s st l1 hb)]
    exact blocks_sel_lines bs hp.2 st s' l2 hbs
/-- for the arms: the lines of the arm that ran reproduce the state; when none ran, the state is
    unchanged -/
theorem arms_sel_lines : ∀ (a : Arms), PureConds holds a.condLines → ∀ (s s' : St) (ls : List Line) (t : Bool),
    a.sel exec holds s = .ok (s', ls, t) → runLines exec ls s = .ok s' ∧ (t = false → s' = s)
  | .nil, _, s, s', ls, t, h => by cases h; exact ⟨rfl, fun _ => rfl⟩
  | .cons l body rest, hp, s, s', ls, t, h => by
    simp only [PureConds, Arms.condLines, List.forall_mem_cons, List.forall_mem_append] at hp
    obtain ⟨st, ⟨hh, rfl, hb⟩ | ⟨hh, hr⟩⟩ := Arms.sel_cons_ok h <;>
      obtain rfl : st = s := hp.1 s st _ hh
    · exact ⟨blocks_sel_lines body hp.2.1 st s' ls hb, fun hf => by cases hf⟩
    · exact arms_sel_lines rest hp.2.2 st s' ls t hr
theorem else_sel_lines : ∀ (e : ElseArm), PureConds holds e.condLines → ∀ (s s' : St) (ls : List Line),
    e.sel exec holds s = .ok (s', ls) → runLines exec ls s = .ok s'
  | .none, _, s, s', ls, h => by cases h; rfl
  | .some l body, hp, s, s', ls, h => blocks_sel_lines body hp s s' ls h
end

theorem plain_run : ∀ (ls : List Line) (s : St), (plainBlocks ls).run exec holds s = runLines exec ls s
  | [], s => rfl
  | l :: ls, s => by
    simp only [plainBlocks, Blocks.run, Block.run, runLines]
    cases exec s l with
    | ok s' => exact plain_run ls s'
    | fail e => rfl

theorem plain_flatten : ∀ (ls : List Line), (plainBlocks ls).flatten = ls
  | [] => rfl
  | l :: ls => by simp [plainBlocks, Blocks.flatten, Block.flatten, plain_flatten ls]

end Avra.Lemmas.Sel
