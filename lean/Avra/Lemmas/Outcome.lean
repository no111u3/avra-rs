/-
  How a run of the model can end, in terms of `Out.Sat P Q` (Lemmas/BuildEq: a value `P` allows
  or a failure `Q` allows; `FailsIn Q`: any value).  There is one lemma per function of the build
  — `directiveParse`, `lineStep`, the line loop, files, the three passes (over `pass1Step_sat`,
  `pass2Step_sat` of Lemmas/Passes) — saying which failures the function makes itself and that all
  others are its callees'.  "Never panics" and "always answers" are the instances `Q := no panic`,
  `Q := an error` of every lemma up to `buildStr_fails`, `buildFile_fails`; "the error names the
  line" (`Q := an error naming line n`) is an instance of the lemmas about a directive, a line, a
  step and the item loops of pass 1 and pass 2 — from the line loop upwards the lemmas ask `Q` of
  every error, since an included file's errors name lines of that file
  (`C15b.build_error_names_line` starts from `pass1go_fails`, `pass2go_fails`).  The branches that
  give up (`oof`) or panic are dead: evaluation, operand resolution and data bytes never give up,
  the parser's fuel suffices, the opcode table is complete.
-/
import Avra.Lemmas.Passes
import Avra.Lemmas.Iter
import Avra.Lemmas.Fuel
namespace Avra.Model
open Avra.Lemmas

/-- the fuel handed to the expression parser and to the operand lists always suffices -/
theorem parseLine_flag (s : Str) : (parseLine s).2 = false := by
  unfold parseLine
  split
  · rfl
  · rfl
  · exact absurd ‹_› (Avra.Lemmas.Fuel.line_no_oof s)

theorem handOn_flag (re : Bool) (ls : List (Nat × Str)) : (Lemmas.Skip.handOn re ls).2.2.2 = false := by
  cases ls <;> rfl

/-- the skippers raise the flag only where `parseLine` does -/
theorem skipCond_flag (all : Bool) : ∀ (ls : List (Nat × Str)) (d : Nat), (skipCond all d ls).2.2.2 = false
  | [], _ => rfl
  | (num, t) :: xs, d => by
    rw [Lemmas.Cond.skipCond_cons (l := (num, t)) (parseLine_flag t)]
    cases Lemmas.Cond.kindOf (num, t) with
    | «open» | other => exact skipCond_flag all xs _
    | endif | els => dsimp only; split; exact handOn_flag _ _; exact skipCond_flag all xs _
    | elif => dsimp only; split; rfl; exact skipCond_flag all xs _

theorem skipMacro_flag : ∀ (ls acc : List (Nat × Str)), (skipMacro acc ls).2.2.2 = false
  | [], _ => rfl
  | (num, t) :: xs, acc => by
    have hf := parseLine_flag t
    unfold skipMacro
    repeat' split
    -- the leaves: the skipper goes on (recursive call); it hands on a line; the dead arm "out of fuel"
    all_goals first
      | exact skipMacro_flag xs _
      | rfl
      | (rw [‹parseLine t = _›] at hf; cases hf)

theorem skipStep_flag (st : PState) (ni : NextItem) (ls : List (Nat × Str)) : (skipStep st ni ls).2.2.2.2 = false := by
  cases ni with
  | newLine => cases ls <;> rfl
  | endFile => rfl
  | endMacro => exact skipMacro_flag ls []
  | endIf => exact skipCond_flag false ls 0
  | endIfAll => exact skipCond_flag true ls 0

variable {Q : Fail → Prop}

theorem modifyLast_messages (st : PState) (f : Segment → Segment) : (st.modifyLast f).messages = st.messages := by
  rw [st.modifyLast_eq]

theorem pushToLast_messages (st : PState) (ln : Nat) (it : Item) : (st.pushToLast ln it).messages = st.messages :=
  modifyLast_messages st _

/-- `R`: any property that every state with the messages so far in front has (all a directive does
    to the messages is append one); for `.include` the file's handler establishes it -/
theorem directiveParse_sat (R : PState → Prop) (inc : IncludeFn) (cur : Str) (incs : List Str) (st : PState)
    (d : Directive) (ops : DirectiveOps) (ln : Nat) (hline : ∀ k, Q (.error ⟨some ln, k⟩))
    (hkeep : ∀ st' extra, st'.messages = st.messages ++ extra → R st')
    (hinc : d = .include → ∀ p, (inc p incs st).Sat (fun r => R r.1) Q) :
    (directiveParse inc cur incs st d ops ln).Sat (fun r => R r.1) Q := by
  unfold directiveParse
  dsimp only
  repeat' split
  -- the leaves: an error of this line; the messages untouched; a dead `oof` of the evaluator; a
  -- message appended; the value or a failure of the file.  The two frequent kinds stand first:
  -- an alternative that does not apply is paid for at every leaf it is tried on
  all_goals first
    | exact hline _
    | (refine hkeep _ [] ?_
       simp only [pushToLast_messages, modifyLast_messages, PState.addSegment, List.append_nil]; done)
    | exact absurd ‹eval _ _ = .oof› (eval_ne_oof _ _)
    | exact hkeep _ [_] rfl
    | exact (hinc rfl _).ok ‹_›
    | exact (hinc rfl _).error ‹_›
    | exact (hinc rfl _).panic ‹_›
    | exact (hinc rfl _).oof ‹_›

/-- the same for a line: it stores items, which leaves the messages alone, or is its directive -/
theorem lineStep_sat (R : PState → Prop) (inc : IncludeFn) (cur : Str) (incs : List Str) (st : PState) (idx : Nat)
    (text : Str) (re : Bool) (hline : ∀ k, Q (.error ⟨some (idx + 1), k⟩))
    (hkeep : ∀ st' extra, st'.messages = st.messages ++ extra → R st')
    (hinc : (∃ lab ops, parseLine text = (some (.directiveLine lab .include ops), false)) →
      ∀ p st', st'.messages = st.messages → (inc p incs st').Sat (fun r => R r.1) Q) :
    (lineStep inc cur incs st idx text re).Sat (fun r => R r.1) Q := by
  have hf := parseLine_flag text
  have hsame : ∀ st', st'.messages = st.messages → R st' := fun st' h => hkeep st' [] (by rw [h, List.append_nil])
  unfold lineStep
  split
  · rename_i hp; rw [hp] at hf; cases hf
  · exact hline _
  · rename_i b doc hp
    rw [hp] at hf; subst hf
    split
    · exact hsame _ (pushToLast_messages ..)
    · rename_i lab op args
      exact hsame _ (by cases lab <;> simp only [pushToLast_messages])
    · rename_i lab d ops
      -- the state the directive sees: `st`, or `st` with the line's label stored
      have hm : ∀ st1 : PState, st1.messages = st.messages →
          (if d = .else ∨ (d = .elif ∧ !re) then (.ok (st1, incs, .endIfAll) : Out (PState × List Str × NextItem))
            else directiveParse inc cur incs st1 d ops (idx + 1)).Sat (fun r => R r.1) Q := by
        intro st1 hm
        split
        · exact hsame _ hm
        · exact directiveParse_sat R _ _ _ _ _ _ _ hline (fun st' extra h => hkeep st' extra (by rw [h, hm]))
            fun hd p => hinc ⟨_, _, hd ▸ hp⟩ p _ hm
      cases lab
      · exact hm _ rfl
      · exact hm _ (pushToLast_messages ..)
    · exact hsame _ rfl

theorem parseIterWith_sat (I : PState → Prop) (inc : IncludeFn) (cur : Str)
    (hskip : ∀ st ni ls, I st → I (skipStep st ni ls).1)
    (hstep : ∀ incs st idx text re, I st → (lineStep inc cur incs st idx text re).Sat (fun r => I r.1) Q) :
    ∀ (f : Nat) (incs : List Str) (st : PState) (ni : NextItem) (ls : List (Nat × Str)),
      (f ≤ ls.length → Q .oof) → I st → (parseIterWith inc cur f incs st ni ls).Sat (fun r => I r.1) Q := by
  intro f
  induction f with
  | zero => intro incs st ni ls hoof _; exact hoof (Nat.zero_le _)
  | succ f ih =>
    intro incs st ni ls hoof hI
    have hflag := skipStep_flag st ni ls
    have hI1 := hskip st ni ls hI
    simp only [parseIterWith]
    split
    · rename_i hs; rw [hs] at hflag; cases hflag
    · rename_i hs; rw [hs] at hI1; exact hI1
    · rename_i st1 idx text re rest hs
      rw [hs] at hI1
      have hlt := Avra.Lemmas.Skip.skipStep_shrinks hs
      have hl := hstep incs st1 idx text re hI1
      split
      · exact ih _ _ _ _ (fun h => hoof (by omega)) (hl.ok ‹_›)
      · exact hl.error ‹_›
      · exact hl.panic ‹_›
      · exact hl.oof ‹_›

theorem parseIterWith_fails (inc : IncludeFn) (cur : Str) (herr : ∀ e, Q (.error e))
    (hinc : ∀ p i st, (inc p i st).FailsIn Q) (f : Nat) (incs : List Str) (st : PState) (ni : NextItem)
    (ls : List (Nat × Str)) (hoof : f ≤ ls.length → Q .oof) : (parseIterWith inc cur f incs st ni ls).FailsIn Q :=
  parseIterWith_sat (fun _ => True) inc cur (fun _ _ _ _ => trivial)
    (fun incs st idx text re _ =>
      lineStep_sat _ inc cur incs st idx text re (fun _ => herr _) (fun _ _ _ => trivial) fun _ p st' _ => hinc p incs st')
    f incs st ni ls hoof trivial

theorem parseFileAt_fails (fs : Fs) (herr : ∀ e, Q (.error e)) :
    ∀ (d : Nat) (p : Str) (i : List Str) (st : PState), (parseFileAt fs d p i st).FailsIn Q := by
  intro d
  induction d with
  | zero => intro p i st; exact herr _
  | succ d ih =>
    intro p i st
    unfold parseFileAt
    dsimp only
    split
    · split <;> exact herr _
    · have hl := fun incs' => parseIterWith_fails (parseFileAt fs d) (resolvePath fs p i) herr ih
        ((lines ‹Str›).length + 1) incs' st .newLine (numbered (lines ‹Str›)) (fun h => by simp [numbered] at h; omega)
      split
      · trivial
      · exact herr _
      · exact (hl _).panic ‹_›
      · exact (hl _).oof ‹_›

theorem parseIter_fails (fs : Fs) (cur : Str) (incs : List Str) (st : PState) (ni : NextItem) (ls : List (Nat × Str))
    (herr : ∀ e, Q (.error e)) : (parseIter fs cur incs st ni ls).FailsIn Q :=
  parseIterWith_fails _ _ herr (parseFileAt_fails fs herr includeDepth) _ _ _ _ _ fun h => absurd h (Nat.not_succ_le_self _)

theorem parseStr_fails (fs : Fs) (src : Str) (ctx : Ctx) (herr : ∀ e, Q (.error e)) : (parseStr fs src ctx).FailsIn Q := by
  have hl := parseIter_fails fs fs.cwd [] (PState.init ctx) .newLine (numbered (lines src)) herr
  unfold parseStr
  split
  · trivial
  · exact herr _
  · exact hl.panic ‹_›
  · exact hl.oof ‹_›

theorem parseFile_fails (fs : Fs) (path : Str) (incs : List Str) (ctx : Ctx) (herr : ∀ e, Q (.error e)) :
    (parseFile fs path incs ctx).FailsIn Q := by
  have hl := parseFileAt_fails fs herr (includeDepth + 1) path (incs.foldl (fun acc p => pathsInsert p acc) []) (PState.init ctx)
  unfold parseFile
  split
  · trivial
  · exact herr _
  · exact hl.panic ‹_›
  · exact hl.oof ‹_›

theorem macroExpand_fails (fs : Fs) (macros : List (Str × List (Nat × Str))) (st : PState) (ln : Nat) (name : Str)
    (ops : List IOp) (herr : ∀ e, Q (.error e)) : (macroExpand fs macros st ln name ops).FailsIn Q := by
  have hl := fun inner body => parseIter_fails fs [] [] inner .newLine body herr
  unfold macroExpand
  dsimp only
  repeat' split
  -- the leaves: the expansion; an error of the call or of the body; a panic or `oof` of the body's parse
  all_goals first
    | trivial
    | exact herr _
    | exact (hl _ _).panic ‹_›
    | exact (hl _ _).oof ‹_›

theorem pass0Segs_fails (inner : PState → List (Nat × Item) → Out PState) (hin : ∀ st its, (inner st its).FailsIn Q) :
    ∀ (segs : List Segment) (st : PState), (pass0Segs inner st segs).FailsIn Q := by
  intro segs
  induction segs with
  | nil => intro st; trivial
  | cons s more ih =>
    intro st
    unfold pass0Segs
    split
    · split
      · exact ih _
      · exact hin _ _
    · exact ih _

/-- the next nesting level is asked only where macro calls may be expanded -/
theorem pass0Items_fails (fs : Fs) (macros : List (Str × List (Nat × Str))) (allow : Bool)
    (inner : PState → List (Nat × Item) → Out PState) (herr : ∀ e, Q (.error e))
    (hin : allow = true → ∀ st its, (inner st its).FailsIn Q) :
    ∀ (its : List (Nat × Item)) (st : PState), (pass0Items fs macros allow inner st its).FailsIn Q := by
  intro its
  induction its with
  | nil => intro st; trivial
  | cons x rest ih =>
    obtain ⟨ln, it⟩ := x
    intro st
    unfold pass0Items
    dsimp only
    split
    · split
      · exact herr _
      · rename_i name ops ha
        have hin := hin (by simpa using ha)
        have hm := macroExpand_fails fs macros st ln name ops herr
        split
        · split
          · exact ih _
          · split
            · split
              · exact ih _
              · exact pass0Segs_fails inner hin _ _
            · exact hin _ _
        · exact herr _
        · exact hm.panic ‹_›
        · exact hm.oof ‹_›
    · exact ih _

theorem pass0At_fails (fs : Fs) (macros : List (Str × List (Nat × Str))) (herr : ∀ e, Q (.error e)) :
    ∀ (d : Nat) (st : PState) (its : List (Nat × Item)), (pass0At fs macros d st its).FailsIn Q := by
  intro d
  induction d with
  | zero => intro st its; exact pass0Items_fails fs macros false _ herr (fun h => by cases h) its st
  | succ d ih => intro st its; exact pass0Items_fails fs macros true _ herr (fun _ => ih) its st

theorem pass0_fails (fs : Fs) (parsed : ParseResult) (ctx : Ctx) (herr : ∀ e, Q (.error e)) :
    (pass0 fs parsed ctx).FailsIn Q := by
  rw [pass0_segs]
  exact pass0Segs_fails _ (pass0At_fails fs parsed.macros herr macroDepth) _ _

theorem prependItems_fails (xs : List (Nat × Item)) (r : Out (Nat × List (Nat × Item) × Ctx)) (h : r.FailsIn Q) :
    (prependItems xs r).FailsIn Q := by
  cases r <;> exact h

theorem pass1Items_fails (t : SegT) (limit : Nat) (hover : Q (.error ⟨none, "overdue"⟩)) :
    ∀ (its : List (Nat × Item)) (cur : Nat) (ctx : Ctx), (∀ p ∈ its, ∀ k, Q (.error ⟨some p.1, k⟩)) →
      (pass1Items t limit its cur ctx).FailsIn Q := by
  intro its
  induction its with
  | nil => intro cur ctx _; rw [pass1Items_nil]; split <;> first | exact hover | trivial
  | cons x rest ih =>
    obtain ⟨ln, it⟩ := x
    intro cur ctx hl
    have hln : ∀ k, Q (.error ⟨some ln, k⟩) := hl (ln, it) List.mem_cons_self
    rw [pass1Items_cons]
    split
    · exact hln _
    · exact (pass1Step_sat t ctx cur ln it hln).bind fun v _ _ =>
        prependItems_fails _ _ (ih _ _ fun p hp => hl p (List.mem_cons_of_mem _ hp))

theorem pass1go_fails (messages : List Str) (dev : Device) (hover : Q (.error ⟨none, "overdue"⟩))
    (hlap : Q (.error ⟨none, "overlap"⟩)) :
    ∀ (segs : List Segment) (a b c : Nat) (out : List Segment) (cx : Ctx),
      (∀ s ∈ segs, ∀ p ∈ s.items, ∀ k, Q (.error ⟨some p.1, k⟩)) → (pass1.go messages dev segs a b c out cx).FailsIn Q := by
  intro segs
  induction segs with
  | nil => intro a b c out cx _; trivial
  | cons s more ih =>
    intro a b c out cx hl
    have hs := fun limit cur cx => pass1Items_fails s.t limit hover s.items cur cx (hl s List.mem_cons_self)
    have ih := fun a b c out cx => ih a b c out cx fun s' hs' => hl s' (List.mem_cons_of_mem _ hs')
    unfold pass1.go
    dsimp only
    repeat' split
    -- the leaves: an overlap; the rest of the segments; a failure of this segment's items
    all_goals first
      | exact hlap
      | exact ih _ _ _ _ _
      | exact (hs _ _ _).error ‹_›
      | exact (hs _ _ _).panic ‹_›
      | exact (hs _ _ _).oof ‹_›

theorem pass2Items_fails (t : SegT) : ∀ (its : List (Nat × Item)) (cur : Nat) (acc : List Nat) (ctx : Ctx),
    (∀ p ∈ its, ∀ k, Q (.error ⟨some p.1, k⟩)) → (pass2Items t its cur acc ctx).FailsIn Q := by
  intro its
  induction its with
  | nil => intro cur acc ctx _; trivial
  | cons x rest ih =>
    obtain ⟨ln, it⟩ := x
    intro cur acc ctx hl
    rw [pass2Items_cons]
    exact (pass2Step_sat t _ cur ln it (hl (ln, it) List.mem_cons_self)).bind fun v _ _ =>
      ih _ _ _ fun p hp => hl p (List.mem_cons_of_mem _ hp)

theorem pass2go_fails (p1 : Pass1Result) : ∀ (segs : List Segment) (code ee : List Nat) (ctx : Ctx),
    (∀ s ∈ segs, ∀ p ∈ s.items, ∀ k, Q (.error ⟨some p.1, k⟩)) → (pass2.go p1 segs code ee ctx).FailsIn Q := by
  intro segs
  induction segs with
  | nil => intro code ee ctx _; trivial
  | cons s more ih =>
    intro code ee ctx hl
    have hs := fun ctx => pass2Items_fails s.t s.items s.address [] ctx (hl s List.mem_cons_self)
    have ih := fun code ee ctx => ih code ee ctx fun s' hs' => hl s' (List.mem_cons_of_mem _ hs')
    unfold pass2.go
    dsimp only
    split
    · split <;> exact ih _ _ _
    · exact (hs _).error ‹_›
    · exact (hs _).panic ‹_›
    · exact (hs _).oof ‹_›

theorem fitResult_fails (p2 : Pass2Result) (hf : Q (.error ⟨none, "flash-overdue"⟩)) (he : Q (.error ⟨none, "eeprom-overdue"⟩))
    (hr : Q (.error ⟨none, "ram-overdue"⟩)) : (fitResult p2).FailsIn Q := by
  unfold fitResult
  dsimp only
  repeat' split
  · exact hf
  · exact he
  · exact hr
  · trivial

theorem buildFromParsed_fails (fs : Fs) (st : PState) (herr : ∀ e, Q (.error e)) : (buildFromParsed fs st).FailsIn Q := by
  rw [buildFromParsed_bind]
  refine (pass0_fails fs st.asParseResult st.ctx herr).bind fun p0 _ _ => ?_
  refine (pass1go_fails _ _ (herr _) (herr _) _ _ _ _ _ _ fun _ _ _ _ _ => herr _).bind fun p1 _ _ => ?_
  exact (pass2go_fails p1 _ _ _ _ fun _ _ _ _ _ => herr _).bind fun p2 _ _ => fitResult_fails p2 (herr _) (herr _) (herr _)

theorem buildStr_fails (fs : Fs) (src : Str) (herr : ∀ e, Q (.error e)) : (buildStr fs src).FailsIn Q := by
  rw [buildStr_bind]
  exact (parseStr_fails fs src initCtx herr).bind fun st _ _ => buildFromParsed_fails fs st herr

theorem buildFile_fails (fs : Fs) (path : Str) (incs : List Str) (herr : ∀ e, Q (.error e)) :
    (buildFile fs path incs).FailsIn Q := by
  rw [buildFile_bind]
  exact (parseFile_fails fs path incs initCtx herr).bind fun st _ _ => buildFromParsed_fails fs st herr

end Avra.Model
