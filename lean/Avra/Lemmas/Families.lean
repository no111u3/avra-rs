/-
  For every arm of the encoder model, and for ALL operand lists (any count, any kinds, any i64
  values): the model's words, behind the operand-count check of `process` (`armWords`, with the
  counts the arity table allows for the arm's mnemonics), are the ISA encoding of what the
  independent legality spec says the operands denote.  Each lemma joins the field extractors
  (`Lemmas.Fields`: the Rust guards accept exactly the ISA's ranges) to the bit packing of the arm
  (`Lemmas.Pack`).  An operand list of the wrong shape is rejected by both sides (the last case of
  every proof), one of the right shape has an allowed count (`armWords_of rfl`, or by unification).
-/
import Avra.Lemmas.Fields
import Avra.Lemmas.Pack
namespace Avra.Lemmas
open Avra.Model Avra.Isa

theorem inRange_toNat {hi v : Int} (h : inRange 0 hi v = true) : v.toNat < hi.toNat + 1 := by
  unfold inRange at h; simp at h; omega

theorem guard_words {c c' : Prop} [Decidable c] [Decidable c'] {w : Nat} {i : Instr}
    (hc : c' ↔ ¬ c) (hw : c' → [w] = encode i) :
    wordsOf (if c then none else some (w, none)) = (if c' then some i else none).map encode := by
  by_cases h : c'
  · rw [if_neg (hc.mp h), if_pos h]; exact congrArg some (hw h)
  · rw [if_pos (Decidable.not_not.mp (mt hc.mpr h)), if_neg h]; rfl

theorem guard_field {c' : Prop} [Decidable c'] {p : Bool} {x : Nat} {f : Nat → Nat} {i : Instr}
    (hc : c' ↔ p = true) (hw : c' → [f x] = encode i) :
    wordsOf ((if p = true then some x else none).map fun k => (f k, none)) =
      (if c' then some i else none).map encode := by
  by_cases h : c'
  · rw [if_pos (hc.mp h), if_pos h]; exact congrArg some (hw h)
  · rw [if_neg (mt hc.mpr h), if_neg h]; rfl

theorem armWords_of {ks : List Nat} {args : List AArg} {w : W} (h : ks.contains args.length = true) :
    armWords ks args w = wordsOf w := by
  rw [armWords, h]; rfl

theorem fam_rr (o : RROp) (args : List AArg) (hr : regsOk args) :
    armWords [2] args (eRR (patConst (rrPat o)) args) = (sRR o args).map encode := by
  unfold eRR sRR
  split
  · simp only [regsOk] at hr
    simp [armWords, reg32, hr, wordsOf, encode, pack_rr]
  · simp_all [armWords, wordsOf]

theorem fam_same (o : RROp) (args : List AArg) (hr : regsOk args) :
    armWords [1] args (eSame (patConst (rrPat o)) args) = (sRRsame o args).map encode := by
  unfold eSame sRRsame
  split
  · simp only [regsOk] at hr
    simp [armWords, reg32, hr, wordsOf, encode, pack_rr]
  · simp_all [armWords, wordsOf]

theorem fam_one (o : OneOp) (args : List AArg) (hr : regsOk args) :
    armWords [1] args (eOne (patConst (onePat o)) args) = (sOne o args).map encode := by
  unfold eOne sOne
  split
  · simp only [regsOk] at hr
    simp [armWords, reg32, hr, wordsOf, encode, pack_one o _ hr.1]
  · simp_all [armWords, wordsOf]

theorem fam_imm (o : ImmOp) (cbr : Bool) (f : Nat → Nat) (hf : ∀ k, f k = if cbr then 0xff - k else k)
    (args : List AArg) (hr : regsOk args) :
    armWords [2] args (eImm (patConst (immPat o)) cbr args) = (sImm o f args).map encode := by
  unfold eImm sImm
  split
  · next d v =>
    rw [armWords_of rfl]
    simp only [regsOk] at hr
    rw [fByte_eq_imm8]
    by_cases h16 : d < 16
    · have : ¬ (16 ≤ d ∧ d < 32) := by omega
      simp [h16, this, wordsOf]
    · have h1 : 16 ≤ d ∧ d < 32 := by omega
      simp only [h16, h1, if_false, if_true, and_self]
      cases h : imm8 v with
      | none => simp [wordsOf]
      | some k =>
        have hk := imm8_lt v k h
        have := pack_imm o d (f k) h1.1 h1.2 (by rw [hf]; split <;> omega)
        simp [wordsOf, encode, ← hf, this]
  · simp_all [armWords, wordsOf]

theorem fam_ser (args : List AArg) (hr : regsOk args) :
    armWords [1] args (eSer 0xef0f args) = (sSer args).map encode := by
  unfold eSer sSer
  split
  · next d =>
    simp only [regsOk] at hr
    refine guard_words (by omega) fun h => ?_
    have := pack_ser (d - 16) (by omega)
    rw [show d - 16 + 16 = d by omega] at this
    simp [encode, this]
  · simp_all [armWords, wordsOf]

theorem fam_adiw (sub : Bool) (args : List AArg) :
    armWords [2] args (eAdiw (if sub then 0x9700 else 0x9600) args) = (sAdiw sub args).map encode := by
  unfold eAdiw sAdiw
  split
  · next d v =>
    rw [armWords_of rfl]
    rw [fSmall_spec 63 (by omega)]
    by_cases hd : (d = 24 ∨ d = 26 ∨ d = 28 ∨ d = 30)
    · have hb : (!(d == 24 || d == 26 || d == 28 || d == 30)) = false := by
        rcases hd with h | h | h | h <;> simp [h]
      simp only [hb, Bool.false_eq_true, if_false]
      by_cases hv : inRange 0 63 v = true
      · have := pack_adiw sub ((d - 24) / 2) v.toNat (by omega) (inRange_toNat hv)
        rw [show 24 + 2 * ((d - 24) / 2) = d by omega] at this
        simp [hv, hd, wordsOf, encode, this]
      · simp [hv, wordsOf]
    · have hb : (!(d == 24 || d == 26 || d == 28 || d == 30)) = true := by
        simp only [not_or] at hd
        simp [hd.1, hd.2.1, hd.2.2.1, hd.2.2.2]
      simp [hb, hd, wordsOf]
  · simp_all [armWords, wordsOf]

theorem fam_muls (args : List AArg) (hr : regsOk args) :
    armWords [2] args (eMuls 0x0200 args) = (sMuls args).map encode := by
  unfold eMuls sMuls
  split
  · next d r =>
    simp only [regsOk] at hr
    refine guard_words (by omega) fun h => ?_
    have := pack_muls (d - 16) (r - 16) (by omega) (by omega)
    rw [show d - 16 + 16 = d by omega, show r - 16 + 16 = r by omega] at this
    simp [encode, this]
  · simp_all [armWords, wordsOf]

theorem fam_mulf (o : MulfOp) (args : List AArg) :
    armWords [2] args (eMulf (patConst (mulfPat o)) args) = (sMulf o args).map encode := by
  unfold eMulf sMulf
  split
  · next d r =>
    refine guard_words (by omega) fun h => ?_
    have := pack_mulf o (d - 16) (r - 16) (by omega) (by omega)
    rw [show d - 16 + 16 = d by omega, show r - 16 + 16 = r by omega] at this
    simp [encode, this]
  · simp_all [armWords, wordsOf]

theorem fam_movw (args : List AArg) (hr : regsOk args) :
    armWords [2] args (eMovw 0x0100 args) = (sMovw args).map encode := by
  unfold eMovw sMovw
  split
  · next d r =>
    simp only [regsOk] at hr
    refine guard_words (by omega) fun h => ?_
    have := pack_movw (d / 2) (r / 2) (by omega) (by omega)
    rw [show 2 * (d / 2) = d by omega, show 2 * (r / 2) = r by omega] at this
    simp only [encode, this]
  · simp_all [armWords, wordsOf]

theorem twos_lt (n : Nat) (k : Int) : twos n k < 2 ^ n := by
  unfold twos
  have hp : (0 : Int) < 2 ^ n := Int.pow_pos (by decide)
  have := Int.emod_lt_of_pos k hp
  have h0 := Int.emod_nonneg k (Int.ne_of_gt hp)
  apply Int.ofNat_lt.mp
  rw [Int.toNat_of_nonneg h0, Int.natCast_pow]
  exact this

theorem fam_rel (addr : Nat) (call : Bool) (args : List AArg) :
    armWords [1] args (eRel (if call then 0xd000 else 0xc000) addr args) = (sRel call addr args).map encode := by
  unfold eRel sRel
  split
  · next t =>
    rw [show (0x0fff : Nat) = 2 ^ 12 - 1 from rfl, fRel_spec _ _ 12 (by decide)]
    refine guard_field Iff.rfl fun _ => ?_
    simp [encode, pack_rel call _ (twos_lt 12 (relOf addr t))]
  · simp_all [armWords, wordsOf]

theorem fam_brb (addr : Nat) (clear : Bool) (args : List AArg) :
    armWords [2] args (eBrb 0xf000 addr (lookupOp (.br (if clear then .bc else .bs)) Gen.brNum) args) =
      (sBrb clear addr args).map encode := by
  rw [show lookupOp (.br (if clear then .bc else .bs)) Gen.brNum = some (if clear then 1024 else 0) by
    cases clear <;> decide]
  unfold eBrb sBrb
  split
  · next s t =>
    rw [armWords_of rfl]
    rw [show (0x7f : Nat) = 2 ^ 7 - 1 from rfl, fRel_spec _ _ 7 (by decide), fBit_spec]
    by_cases hs : inRange 0 7 s = true
    · by_cases h : inRange (-64) 63 (relOf addr t) = true
      · simp [hs, h, wordsOf, encode, pack_brb clear _ _ (inRange_toNat hs) (twos_lt 7 (relOf addr t))]
      · simp [hs, h, wordsOf]
    · simp [hs, wordsOf]
  · simp_all [armWords, wordsOf]

/-- Gen obligation: the extracted branch numbers are the ISA's flag numbers, with "branch if cleared" in bit 10 -/
theorem br_num {t : BranchT} {clear : Bool} {s : Nat} (h : branchFlag t = some (clear, s)) :
    lookupOp (.br t) Gen.brNum = some (s ||| if clear then 1024 else 0) ∧ s < 8 := by
  have : ∀ cs ∈ branchFlag t, lookupOp (.br t) Gen.brNum = some (cs.2 ||| if cs.1 then 1024 else 0) ∧ cs.2 < 8 := by
    cases t <;> decide +kernel
  exact this _ h

theorem fam_br (addr : Nat) (t : BranchT) (ht : (branchFlag t).isSome = true) (args : List AArg) :
    armWords [1] args (eBr 0xf000 addr (lookupOp (.br t) Gen.brNum) args) = (sBr t addr args).map encode := by
  unfold eBr sBr
  split
  · next tg =>
    rw [armWords_of rfl]
    cases hb : branchFlag t with
    | none => simp [hb] at ht
    | some cs =>
      obtain ⟨clear, s⟩ := cs
      have hn := br_num hb
      rw [hn.1, show (0x7f : Nat) = 2 ^ 7 - 1 from rfl, fRel_spec _ _ 7 (by decide)]
      by_cases h : inRange (-64) 63 (relOf addr tg) = true
      · have := pack_brb clear s _ hn.2 (twos_lt 7 (relOf addr tg))
        simp [h, wordsOf, encode, ← this, packBr, Nat.or_assoc]
      · simp [h, wordsOf]
  · simp_all [armWords, wordsOf]

theorem and_mod_mask {m n : Nat} (h : m < 2 ^ n) (x : Nat) : x &&& m = x % 2 ^ n &&& m := by
  have e := Nat.and_mod_two_pow (a := x) (b := m) (n := n)
  rwa [Nat.mod_eq_of_lt (Nat.and_lt_two_pow x h), Nat.mod_eq_of_lt h] at e

/-- the first word of jmp/call in terms of bits 13..21 of the address (m = k / 8192 % 512) -/
theorem packJmp1_eq (base k : Nat) :
    packJmp1 base k = base ||| ((k / 8192 % 512) &&& 0x1f0) ||| ((k / 8192 % 512 / 8 % 2) &&& 1) := by
  unfold packJmp1
  rw [Nat.shiftRight_eq_div_pow, Nat.shiftRight_eq_div_pow, Nat.and_div_two_pow, Nat.and_div_two_pow,
    show (0x3e0000 : Nat) / 2 ^ 13 = 0x1f0 from rfl, show (0x010000 : Nat) / 2 ^ 16 = 1 from rfl,
    and_mod_mask (n := 9) (by decide) (k / 2 ^ 13), and_mod_mask (n := 1) (by decide) (k / 2 ^ 16),
    show k / 2 ^ 16 % 2 ^ 1 = k / 8192 % 512 / 8 % 2 by omega]

theorem and_ffff (n : Nat) (h : n < 65536) : n &&& 0xffff = n := by
  rw [show (0xffff : Nat) = 2 ^ 16 - 1 from rfl, Nat.and_two_pow_sub_one_eq_mod]; omega

theorem fam_abs (call : Bool) (args : List AArg) :
    armWords [1] args (eAbs (if call then 0x940e else 0x940c) args) = (sAbs call args).map encode := by
  unfold eAbs sAbs
  split
  · next t =>
    rw [armWords_of rfl]
    by_cases h : t < 0 ∨ t > 4194303
    · have : inRange 0 4194303 t = false := by unfold inRange; simp; omega
      simp [h, this, wordsOf]
    · have hr : inRange 0 4194303 t = true := by unfold inRange; simp; omega
      have e1 : t.toNat / 8192 % 512 / 8 = t.toNat / 65536 := by omega
      have hp := pack_abs call (t.toNat / 8192 % 512) (by omega)
      rw [e1] at hp
      have e2 : t.toNat &&& 0xffff = t.toNat % 65536 := Nat.and_two_pow_sub_one_eq_mod _ 16
      simp only [h, hr, if_false, if_true, wordsOf, Option.map_some, encode, packJmp1_eq, e1, e2, hp]
  · simp_all [armWords, wordsOf]

/-- lds / sts share `eDirect`: two words on the classic core, one on the reduced core -/
theorem direct_spec (avr8l st : Bool) (r : Nat) (k : Int) (hr : r < 32) :
    wordsOf (eDirect avr8l (if avr8l then (if st then 0xa800 else 0xa000) else (if st then 0x9200 else 0x9000)) r k) =
      if avr8l then
        (if 16 ≤ r ∧ r < 32 ∧ inRange 0x40 0xbf k then
          some [word (if st then pat!"1010 1kkk dddd kkkk" else pat!"1010 0kkk dddd kkkk")
            [(fld!"d", r - 16), (fld!"k", k16 k.toNat)]]
         else none)
      else (if r < 32 ∧ inRange 0 65535 k then
        some [word (if st then pat!"1001 001d dddd 0000" else pat!"1001 000d dddd 0000") [(fld!"d", r)], k.toNat]
        else none) := by
  unfold eDirect inRange
  cases avr8l
  · simp only [Bool.false_eq_true, if_false]
    by_cases h : k < 0 ∨ k > 65535
    · have : ¬ (r < 32 ∧ ((0 : Int) ≤ k ∧ k ≤ 65535)) := by omega
      simp [h, wordsOf]; omega
    · have hk : k.toNat < 65536 := by omega
      have : (0 : Int) ≤ k ∧ k ≤ 65535 := by omega
      simp [h, hr, this, wordsOf, pack_lds32 st r hr, and_ffff _ hk]
  · simp only [if_true]
    by_cases h16r : r < 16
    · simp [h16r, wordsOf]; omega
    · by_cases h : k < 0x40 ∨ k > 0xbf
      · simp [h16r, h, wordsOf]; omega
      · have : (0x40 : Int) ≤ k ∧ k ≤ 0xbf := by omega
        have hp := pack_lds16 st (r - 16) k.toNat (by omega) (by omega)
        rw [show r - 16 + 16 = r by omega] at hp
        simp [h16r, h, hr, this, wordsOf, hp]

theorem fam_lds (avr8l : Bool) (args : List AArg) (hr : regsOk args) :
    armWords [2] args (eLds avr8l (if avr8l then 0xa000 else 0x9000) args) = (sLds avr8l args).map encode := by
  unfold eLds sLds
  split
  · next r k =>
    rw [armWords_of rfl]
    have := direct_spec avr8l false r k hr.1
    simp only [Bool.false_eq_true, if_false] at this
    rw [this]
    cases avr8l <;> simp only [Bool.false_eq_true, if_false, if_true] <;> split <;> simp_all [encode, k16]
  · simp_all [armWords, wordsOf]

theorem fam_sts (avr8l : Bool) (args : List AArg) (hr : regsOk args) :
    armWords [2] args (eSts avr8l (if avr8l then 0xa800 else 0x9200) args) = (sSts avr8l args).map encode := by
  unfold eSts sSts
  split
  · next k r =>
    rw [armWords_of rfl]
    have := direct_spec avr8l true r k hr.1
    simp only [if_true] at this
    rw [this]
    cases avr8l <;> simp only [Bool.false_eq_true, if_false, if_true] <;> split <;> simp_all [encode, k16]
  · simp_all [armWords, wordsOf]

theorem index_spec (st : Bool) (r : Nat) (hr : r < 32) (i : AIndex) :
    (indexBits i).map (fun b => [packOne (if st then 0x8200 else 0x8000) r ||| b]) = idxSpec st r i := by
  by_cases hi : ∀ p q, i ≠ .disp p q
  · exact pack_ptr st i hi r hr
  · obtain ⟨p, q, rfl⟩ : ∃ p q, i = .disp p q := by
      cases i <;> simp_all
    cases q with
    | none => cases p <;> simp [indexBits, idxSpec, dispMode, ptrMode]
    | some v =>
      cases p with
      | x => simp [indexBits, idxSpec, dispMode, ptrMode]
      | y =>
        simp only [indexBits, idxSpec, dispMode, ptrMode, fSmall_spec 63 (by omega)]
        by_cases hv : inRange 0 63 v = true
        · simpa [hv, regValue] using pack_disp st false r v.toNat hr (inRange_toNat hv)
        · simp [hv]
      | z =>
        simp only [indexBits, idxSpec, dispMode, ptrMode, fSmall_spec 63 (by omega)]
        by_cases hv : inRange 0 63 v = true
        · simpa [hv, regValue] using pack_disp st true r v.toNat hr (inRange_toNat hv)
        · simp [hv]

theorem wordsOf_map (o : Option Nat) (f : Nat → Nat) :
    wordsOf (o.map fun b => (f b, none)) = o.map fun b => [f b] := by
  cases o <;> simp [wordsOf]

theorem fam_ld (args : List AArg) (hr : regsOk args) :
    armWords [2] args (eLd 0x8000 args) = (sLd args).map encode := by
  unfold eLd sLd
  split
  · next r i =>
    rw [armWords_of rfl]
    rw [wordsOf_map]; refine (index_spec false r hr.1 i).trans ?_
    simp only [hr.1, if_true, idxSpec]
    cases dispMode i <;> cases ptrMode i <;> simp
  · simp_all [armWords, wordsOf]

theorem fam_st (args : List AArg) (hr : regsOk args) :
    armWords [2] args (eSt 0x8200 args) = (sSt args).map encode := by
  unfold eSt sSt
  split
  · next i r =>
    rw [armWords_of rfl]
    rw [wordsOf_map]; refine (index_spec true r hr.1 i).trans ?_
    simp only [hr.1, if_true, idxSpec]
    cases dispMode i <;> cases ptrMode i <;> simp
  · simp_all [armWords, wordsOf]

theorem fam_in (args : List AArg) (hr : regsOk args) :
    armWords [2] args (eIn 0xb000 args) = (sIn args).map encode := by
  unfold eIn sIn
  split
  · next r v =>
    rw [fSmall_spec 63 (by omega)]
    refine guard_field (by simp [hr.1]) fun h => ?_
    simpa [encode] using pack_io false r v.toNat hr.1 (inRange_toNat h.2)
  · simp_all [armWords, wordsOf]

theorem fam_out (args : List AArg) (hr : regsOk args) :
    armWords [2] args (eOut 0xb800 args) = (sOut args).map encode := by
  unfold eOut sOut
  split
  · next v r =>
    rw [fSmall_spec 63 (by omega)]
    refine guard_field (by simp [hr.1]) fun h => ?_
    simpa [encode] using pack_io true r v.toNat hr.1 (inRange_toNat h.2)
  · simp_all [armWords, wordsOf]

theorem fam_regbit (base : Nat) (mk : Nat → Nat → Instr)
    (hpack : ∀ r b, r < 2 ^ 5 → b < 2 ^ 3 → [packOne base r ||| b] = encode (mk r b))
    (args : List AArg) (hr : regsOk args) :
    armWords [2] args (eRegBit base args) = (sRegBit mk args).map encode := by
  unfold eRegBit sRegBit
  split
  · next r v =>
    rw [fBit_spec]
    exact guard_field (by simp [hr.1]) fun h => hpack r v.toNat hr.1 (inRange_toNat h.2)
  · simp_all [armWords, wordsOf]

theorem fam_iobit (o : IoBitOp) (args : List AArg) :
    armWords [2] args (eIoBit (patConst (iobPat o)) args) = (sIoBit o args).map encode := by
  unfold eIoBit sIoBit
  split
  · next a b =>
    rw [armWords_of rfl]
    rw [fSmall_spec 31 (by omega), fBit_spec]
    by_cases ha : inRange 0 31 a = true
    · by_cases hb : inRange 0 7 b = true
      · simp [ha, hb, wordsOf, encode, pack_iobit o _ _ (inRange_toNat ha) (inRange_toNat hb)]
      · simp [ha, hb, wordsOf]
    · simp [ha, wordsOf]
  · simp_all [armWords, wordsOf]

theorem fam_flagv (clear : Bool) (args : List AArg) :
    armWords [1] args (eFlagV (if clear then 0x9488 else 0x9408) args) = (sFlagV clear args).map encode := by
  unfold eFlagV sFlagV
  split
  · next v =>
    rw [fBit_spec]
    refine guard_field Iff.rfl fun h => ?_
    simp [encode, pack_flagv clear _ (inRange_toNat h)]
  · simp_all [armWords, wordsOf]

theorem fam_none (o : NoArgOp) (args : List AArg) :
    armWords [0] args (eNone (patConst (noargPat o)) args) = (sNone (.noarg o) args).map encode := by
  unfold eNone sNone
  split
  · cases o <;> decide
  · simp_all [armWords]

/-- se* / cl*: the extracted flag numbers are the ISA's -/
theorem fam_flag (clear : Bool) (f : SFlag) (args : List AArg) :
    armWords [0] args (eFlag (if clear then 0x9488 else 0x9408) (lookupOp (if clear then .cl f else .se f) Gen.sfNum) args) =
      (sNone (.flag clear (flagNum f)) args).map encode := by
  unfold eFlag sNone
  split
  · cases clear <;> cases f <;> decide
  · simp_all [armWords]

theorem fam_lpm (ext : Bool) (args : List AArg) (hr : regsOk args) :
    armWords [0, 2] args (eLpm 0x9000 ext args) = (sLpm ext args).map encode := by
  unfold eLpm sLpm
  split
  · cases ext <;> decide
  · next r i =>
    rw [armWords_of rfl]
    cases i with
    | plain p =>
      cases p <;> simp [wordsOf, hr.1]
      simpa using pack_lpm ext false r hr.1
    | postInc p =>
      cases p <;> simp [wordsOf, hr.1]
      simpa using pack_lpm ext true r hr.1
    | preDec p => cases p <;> simp [wordsOf]
    | disp p q => cases p <;> simp [wordsOf]
  · simp_all [armWords, wordsOf]

end Avra.Lemmas
