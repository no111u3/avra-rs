/-
  How `skip` (model: `skipCond`) moves over the text of a conditional tree, from what it does
  with a line of each kind (`skipCond_cons`, in Lemmas/Skip): a whole well-formed block is
  passed over at any depth (`skip_block`), the arms and the `.else` arm of a construct wherever
  an `.elif`/`.else` line is passed over: inside the construct or when only the `.endif` is
  looked for (`skip_arms_at`, `skip_else_at`).
-/
import Avra.Lemmas.Skip
namespace Avra.Lemmas.Cond
open Avra.Model Avra.Spec

/-- a directive line of a construct, as the theorem needs it: it parses, has the right kind and
    carries no label (a label on `.else` would be "assembled" although no branch owns it) -/
def isDir (l : Line) (p : Directive → Prop) : Prop :=
  ∃ d ops, parseLine l.2 = (some (.directiveLine none d ops), false) ∧ p d

end Avra.Lemmas.Cond
namespace Avra.Spec
open Avra.Model Avra.Lemmas.Cond
mutual
def Block.wf : Block → Prop
  | .plain l => kindOf l = .other ∧ noOof l
  | .cond hd body arms els endl =>
    isDir hd (fun d => isCondOpen d = true) ∧ body.wf ∧ arms.wf ∧ els.wf ∧ isDir endl (· = .endif)
def Blocks.wf : Blocks → Prop
  | .nil => True
  | .cons b bs => b.wf ∧ bs.wf
def Arms.wf : Arms → Prop
  | .nil => True
  | .cons l body rest => isDir l (· = .elif) ∧ body.wf ∧ rest.wf
def ElseArm.wf : ElseArm → Prop
  | .none => True
  | .some l body => isDir l (· = .else) ∧ body.wf
end
end Avra.Spec
namespace Avra.Lemmas.Cond
open Avra.Model Avra.Spec

open Avra.Lemmas.Skip

theorem isDir.noOof {l : Line} {p : Directive → Prop} (h : isDir l p) : noOof l := by
  obtain ⟨d, ops, hp, _⟩ := h
  simp only [Cond.noOof, hp]

theorem isCondOpen_elif : isCondOpen .elif = false := by decide
theorem isCondOpen_else : isCondOpen .else = false := by decide
theorem isCondOpen_endif : isCondOpen .endif = false := by decide

theorem kind_open {l : Line} (h : isDir l (fun d => isCondOpen d = true)) : kindOf l = .open := by
  obtain ⟨d, ops, hp, hd⟩ := h
  simp [kindOf, hp, hd]

theorem kind_elif {l : Line} (h : isDir l (· = .elif)) : kindOf l = .elif := by
  obtain ⟨d, ops, hp, rfl⟩ := h
  simp [kindOf, hp, isCondOpen_elif]

theorem kind_else {l : Line} (h : isDir l (· = .else)) : kindOf l = .els := by
  obtain ⟨d, ops, hp, rfl⟩ := h
  simp [kindOf, hp, isCondOpen_else]

theorem kind_endif {l : Line} (h : isDir l (· = .endif)) : kindOf l = .endif := by
  obtain ⟨d, ops, hp, rfl⟩ := h
  simp [kindOf, hp, isCondOpen_endif]

theorem skip_mid {all : Bool} {depth : Nat} {l : Line} {rest : List Line} (hd : 0 < depth ∨ all = true)
    (h : isDir l (· = .elif) ∨ isDir l (· = .else)) :
    skipCond all depth (l :: rest) = skipCond all depth rest := by
  have hn : ¬ (depth = 0 ∧ all = false) := by rcases hd with hd | hd <;> simp [hd] <;> omega
  rcases h with h | h
  · rw [skipCond_cons h.noOof, kind_elif h]; exact if_neg hn
  · rw [skipCond_cons h.noOof, kind_else h]; exact if_neg hn

theorem skip_stop_top {all : Bool} {l : Line} {rest : List Line}
    (h : isDir l (· = .endif) ∨ (isDir l (· = .else) ∧ all = false)) :
    skipCond all 0 (l :: rest) = handOn false rest := by
  rcases h with h | ⟨h, rfl⟩
  · rw [skipCond_cons h.noOof, kind_endif h]; rfl
  · rw [skipCond_cons h.noOof, kind_else h]; rfl

theorem skip_elif_top {l : Line} {rest : List Line} (h : isDir l (· = .elif)) :
    skipCond false 0 (l :: rest) = (some l, true, rest, false) := by
  rw [skipCond_cons h.noOof, kind_elif h]; rfl

mutual
theorem skip_block (all : Bool) : ∀ (b : Block), b.wf → ∀ (depth : Nat) (rest : List Line),
    skipCond all depth (b.flatten ++ rest) = skipCond all depth rest
  | .plain l, h, depth, rest => by
    simp only [Block.flatten, List.cons_append, List.nil_append]
    rw [skipCond_cons h.2, h.1]
  | .cond hd body arms els endl, h, depth, rest => by
    obtain ⟨hhd, hbody, harms, hels, hend⟩ := h
    simp only [Block.flatten, List.cons_append, List.append_assoc]
    rw [skipCond_cons hhd.noOof, kind_open hhd, skip_blocks all body hbody,
      skip_arms_at all arms harms _ (.inl (Nat.succ_pos _)), skip_else_at all els hels _ (.inl (Nat.succ_pos _))]
    rw [skipCond_cons hend.noOof, kind_endif hend, if_neg (Nat.succ_ne_zero _)]
    rfl
theorem skip_blocks (all : Bool) : ∀ (bs : Blocks), bs.wf → ∀ (depth : Nat) (rest : List Line),
    skipCond all depth (bs.flatten ++ rest) = skipCond all depth rest
  | .nil, _, depth, rest => by simp [Blocks.flatten]
  | .cons b bs, h, depth, rest => by
    simp only [Blocks.flatten, List.append_assoc]
    rw [skip_block all b h.1, skip_blocks all bs h.2]
theorem skip_arms_at (all : Bool) : ∀ (a : Arms), a.wf → ∀ (depth : Nat), 0 < depth ∨ all = true → ∀ (rest : List Line),
    skipCond all depth (a.flatten ++ rest) = skipCond all depth rest
  | .nil, _, _, _, rest => by simp [Arms.flatten]
  | .cons l body more, h, depth, hd, rest => by
    obtain ⟨hl, hbody, hmore⟩ := h
    simp only [Arms.flatten, List.cons_append, List.append_assoc]
    rw [skip_mid hd (.inl hl), skip_blocks all body hbody, skip_arms_at all more hmore depth hd]
theorem skip_else_at (all : Bool) : ∀ (e : ElseArm), e.wf → ∀ (depth : Nat), 0 < depth ∨ all = true → ∀ (rest : List Line),
    skipCond all depth (e.flatten ++ rest) = skipCond all depth rest
  | .none, _, _, _, rest => by simp [ElseArm.flatten]
  | .some l body, h, depth, hd, rest => by
    obtain ⟨hl, hbody⟩ := h
    simp only [ElseArm.flatten, List.cons_append]
    rw [skip_mid hd (.inr hl), skip_blocks all body hbody]
end

/-- the arms of a construct seen from inside it (depth + 1) -/
theorem skip_arms (all : Bool) : ∀ (a : Arms), a.wf → ∀ (depth : Nat) (rest : List Line),
    skipCond all (depth + 1) (a.flatten ++ rest) = skipCond all (depth + 1) rest :=
  fun a h _ rest => skip_arms_at all a h _ (.inl (Nat.succ_pos _)) rest

theorem skip_else (all : Bool) : ∀ (e : ElseArm), e.wf → ∀ (depth : Nat) (rest : List Line),
    skipCond all (depth + 1) (e.flatten ++ rest) = skipCond all (depth + 1) rest :=
  fun e h _ rest => skip_else_at all e h _ (.inl (Nat.succ_pos _)) rest

end Avra.Lemmas.Cond
