/-
  The expression parser of the model (`Peg.parseInfix` and its five mutual companions), seen from
  outside: what its answers look like, and that its fuel always suffices.

  Every step of the six functions uses the answer of an inner call in one way (`on`: go on with the
  value, take the alternative after a failure, pass on "out of fuel"); the atom rule is such a step
  with the inner expression parser as a parameter (`atomWith`).  The three inductions (`Closed.all`
  and `mono` over the fuel, `q_all` over the length of the input) each apply one composition lemma
  per rule (`on_post`, `on_keeps`, `on_ne_oof`).  `Closed.all` is the one induction over everything
  the parser returns (instances: lengths here, well-formedness in C09, first characters in C14).
-/
import Avra.Model.Peg
namespace Avra.Lemmas.Fuel
open Avra.Peg

theorem skipSpace_eq : ∀ s : Str, skipSpace s = s.dropWhile isSpace
  | [] => rfl
  | c :: cs => by simp only [skipSpace, skipSpace_eq cs, List.dropWhile_cons]

theorem skipSpace_cons {c : Char} (h : isSpace c = false) (cs : Str) : skipSpace (c :: cs) = c :: cs := by
  simp [skipSpace, h]

theorem lit_append (pre s : Str) : lit pre (pre ++ s) = some s := by
  induction pre with
  | nil => cases s <;> rfl
  | cons p ps ih => simp [lit, ih]

theorem lit_head_ne (t : Str) (x : Char) (xs : Str) (hne : t ≠ []) (h : t.head? ≠ some x) : lit t (x :: xs) = none := by
  cases t with
  | nil => exact absurd rfl hne
  | cons c cs =>
    have hc : c ≠ x := fun e => h (by rw [e]; rfl)
    simp [lit, hc]

/-! ### the operator tables: what their texts begin with -/

/-- blanks may follow a prefix operator (pinned with the grammar text by `C14.grammar_pinned`) -/
theorem prefixSpace_on : Gen.prefixSpace = true := by decide

theorem prefix_texts : ∀ x ∈ prefixOps, x.1 = ['-'] ∨ x.1 = ['~'] ∨ x.1 = ['!'] := by decide

def opChars : Str := ['*', '/', '%', '+', '-', '<', '>', '=', '!', '&', '^', '|']

theorem infix_heads : ∀ x ∈ infixOps, ∃ c ∈ opChars, x.1.head? = some c := by decide

theorem opChars_class : ∀ c ∈ opChars, isIdentChar c = false ∧ isSpace c = false ∧ c ≠ '(' := by decide

/-- every operator has a non-empty text: matching one consumes input -/
theorem prefix_tokens : ∀ x ∈ prefixOps, x.1 ≠ [] := fun x hx h => by
  rcases prefix_texts x hx with h' | h' | h' <;> simp [h] at h'
theorem infix_tokens : ∀ x ∈ infixOps, x.1 ≠ [] := fun x hx h => by
  obtain ⟨c, _, hc⟩ := infix_heads x hx
  simp [h] at hc

theorem prefix_none_of (y : Char) (ys : Str) (h : y ≠ '-' ∧ y ≠ '~' ∧ y ≠ '!') : ∀ x ∈ prefixOps, lit x.1 (y :: ys) = none := by
  intro x hx
  rcases prefix_texts x hx with h' | h' | h' <;> simp [h', lit, Ne.symm, h.1, h.2.1, h.2.2]

theorem infix_none_of {y : Char} (ys : Str) (h : y ∉ opChars) : ∀ x ∈ infixOps, lit x.1 (y :: ys) = none := by
  intro x hx
  obtain ⟨c, hc, hh⟩ := infix_heads x hx
  exact lit_head_ne _ _ _ (infix_tokens x hx) (by rw [hh]; intro he; exact h (Option.some.inj he ▸ hc))

/-! ### lengths -/

theorem skipSpace_len : ∀ s : Str, (skipSpace s).length ≤ s.length := fun s => by
  rw [skipSpace_eq]; exact (List.dropWhile_sublist _).length_le

theorem lit_len : ∀ (t s r : Str), lit t s = some r → r.length + t.length = s.length
  | [], s, r, h => by simp [lit] at h; subst h; simp
  | p :: ps, c :: cs, r, h => by
    unfold lit at h
    split at h
    · have := lit_len ps cs r h; simp only [List.length_cons]; omega
    · simp at h

theorem takeWhileP_eq (p : Char → Bool) : ∀ s : Str, takeWhileP p s = (s.takeWhile p, s.dropWhile p)
  | [] => rfl
  | c :: cs => by
    simp only [takeWhileP, takeWhileP_eq p cs, List.takeWhile_cons, List.dropWhile_cons]
    split <;> rfl

theorem takeWhileP_len (p : Char → Bool) (s : Str) : (takeWhileP p s).2.length ≤ s.length := by
  rw [takeWhileP_eq]; exact (List.dropWhile_sublist p).length_le

theorem identText_len {s n r : Str} (h : identText s = some (n, r)) : r.length < s.length := by
  unfold identText at h
  split at h
  · split at h
    · simp only [Option.some.injEq, Prod.mk.injEq] at h
      obtain ⟨_, rfl⟩ := h
      have := takeWhileP_len isIdentChar ‹Str›
      simp only [List.length_cons]; omega
    · simp at h
  · simp at h

theorem constAlt_len (pre : Str) (cls : Char → Bool) (radix : Nat) (s : Str) (v : Int) (r : Str)
    (h : constAlt pre cls radix s = some (v, r)) : r.length ≤ s.length := by
  unfold constAlt at h
  split at h
  · simp at h
  · rename_i s1 hl
    have h1 := lit_len _ _ _ hl
    have h2 := takeWhileP_len cls s1
    dsimp only at h
    split at h
    · simp at h
    · split at h
      · simp only [Option.some.injEq, Prod.mk.injEq] at h
        obtain ⟨_, rfl⟩ := h
        omega
      · simp at h

theorem orElse_some {α : Type} {a : Option α} {b : Unit → Option α} {x : α} (h : a.orElse b = some x) :
    a = some x ∨ b () = some x := by
  cases a with
  | none => exact Or.inr h
  | some y => exact Or.inl h

theorem eConst_alt {s : Str} {x : Int × Str} (h : eConst s = some x) : ∃ pre cls radix, constAlt pre cls radix s = some x := by
  rcases orElse_some h with h | h
  · exact ⟨_, _, _, h⟩
  rcases orElse_some h with h | h
  · exact ⟨_, _, _, h⟩
  rcases orElse_some h with h | h
  · exact ⟨_, _, _, h⟩
  rcases orElse_some h with h | h
  · exact ⟨_, _, _, h⟩
  · exact ⟨_, _, _, h⟩

theorem eConst_len {s : Str} {v : Int} {r : Str} (h : eConst s = some (v, r)) : r.length ≤ s.length :=
  let ⟨_, _, _, h⟩ := eConst_alt h
  constAlt_len _ _ _ _ _ _ h

theorem ch_len (s : Str) (c : Char) (r : Str) (h : ch s = some (c, r)) : r.length ≤ s.length := by
  unfold ch at h
  split at h
  · split at h
    · simp only [Option.some.injEq, Prod.mk.injEq] at h
      obtain ⟨_, rfl⟩ := h
      simp only [List.length_cons]; omega
    · simp at h
  · simp at h

theorem ch_none {x : Char} (h : x ≠ '\'') (xs : Str) : ch (x :: xs) = none := by
  unfold ch
  split
  · rename_i heq; exact absurd (List.cons.inj heq).1 h
  · rfl

theorem skipSpace_cons_len {s r : Str} {c : Char} (h : skipSpace s = c :: r) : r.length < s.length := by
  have := skipSpace_len s
  rw [h] at this
  exact this

/-! ### how a rule uses the answer of a rule it calls -/

def on (p : PR Expr) (k : Expr → Str → PR Expr) (a : PR Expr) : PR Expr :=
  match p with
  | .ok v r => k v r
  | .fail => a
  | .oof => .oof

def Post {α : Type} (Φ : α → Str → Prop) (p : PR α) : Prop := ∀ v r, p = .ok v r → Φ v r

def Keeps {α : Type} (p q : PR α) : Prop := p ≠ .oof → q = p

theorem Post.ok {α : Type} {Φ : α → Str → Prop} {v : α} {r : Str} (h : Φ v r) : Post Φ (.ok v r) := by
  intro _ _ e; cases e; exact h

theorem Keeps.rfl {α : Type} {p : PR α} : Keeps p p := fun _ => Eq.refl p

theorem Keeps.oof {α : Type} {q : PR α} : Keeps .oof q := fun h => absurd (Eq.refl _) h

section
variable {p p' : PR Expr} {k k' : Expr → Str → PR Expr} {a a' : PR Expr}

theorem on_post {Φ Ψ : Expr → Str → Prop} (hp : Post Φ p) (hk : ∀ v r, Φ v r → Post Ψ (k v r)) (ha : Post Ψ a) :
    Post Ψ (on p k a) := by
  cases p with
  | ok v r => exact hk v r (hp v r rfl)
  | fail => exact ha
  | oof => exact nofun

theorem on_ne_oof (hp : p ≠ .oof) (hk : ∀ v r, p = .ok v r → k v r ≠ .oof) (ha : a ≠ .oof) : on p k a ≠ .oof := by
  cases p with
  | ok v r => exact hk v r rfl
  | fail => exact ha
  | oof => exact absurd rfl hp

theorem on_keeps (hp : Keeps p p') (hk : ∀ v r, Keeps (k v r) (k' v r)) (ha : Keeps a a') :
    Keeps (on p k a) (on p' k' a') := by
  cases p with
  | ok v r => rw [hp nofun]; exact hk v r
  | fail => rw [hp nofun]; exact ha
  | oof => exact .oof

end

/-! ### one step of each of the six functions -/

theorem parseInfix_succ (f m : Nat) (s : Str) :
    parseInfix (f + 1) m s = on (parsePrefixAtom f s) (parseLoop f m) .fail := by
  rfl

/-- which way a table entry goes does not depend on the fuel: it is passed over, or its text is
    there and the operand decides -/
theorem tryPrefix_cons (t : Str) (u : UnOp) (lv : Nat) (more : List (Str × UnOp × Nat)) (s : Str) :
    (∀ f, tryPrefix (f + 1) ((t, u, lv) :: more) s = tryPrefix f more s) ∨
    ∃ s1, lit t s = some s1 ∧ ∀ f, tryPrefix (f + 1) ((t, u, lv) :: more) s =
      on (parseInfix f lv (skipSpace s1)) (fun e r => .ok (.un u e) r) (tryPrefix f more s) := by
  cases hl : lit t s with
  | none => exact .inl fun f => by simp only [tryPrefix, hl]
  | some s1 => exact .inr ⟨s1, rfl, fun f => by simp only [tryPrefix, hl, prefixSpace_on, if_true]; rfl⟩

theorem tryInfix_cons (m : Nat) (t : Str) (b : BinOp) (lv rl : Nat) (more : List (Str × BinOp × Nat × Nat)) (e : Expr) (s0 s : Str) :
    (∀ f, tryInfix (f + 1) m ((t, b, lv, rl) :: more) e s0 s = tryInfix f m more e s0 s) ∨
    ∃ s1, lit t (skipSpace s) = some s1 ∧ ∀ f, tryInfix (f + 1) m ((t, b, lv, rl) :: more) e s0 s =
      on (parseInfix f rl (skipSpace s1)) (fun a r => parseLoop f m (.bin b e a) r) (tryInfix f m more e s0 s) := by
  by_cases hlv : lv < m
  · exact .inl fun f => by simp only [tryInfix, hlv, if_true]
  cases hl : lit t (skipSpace s) with
  | none => exact .inl fun f => by simp only [tryInfix, hlv, hl, if_false]
  | some s1 => exact .inr ⟨s1, rfl, fun f => by simp only [tryInfix, hlv, hl, if_false]; rfl⟩

/-! ### the atom rule, with the expression parser it calls as a parameter -/

def closing (mk : Expr → Expr) (p : PR Expr) : PR Expr :=
  on p (fun a r => match skipSpace r with
    | ')' :: r' => .ok (mk a) r'
    | _ => .fail) .fail

def funcAlt (pi : Str → PR Expr) (s : Str) : PR Expr :=
  match identText s with
  | some (n, r1) =>
    match skipSpace r1 with
    | '(' :: r2 => closing (.func (.ident n)) (pi (skipSpace r2))
    | _ => .fail
  | none => .fail

def parenAlt (pi : Str → PR Expr) (s : Str) : PR Expr :=
  match s with
  | '(' :: r1 => closing id (pi (skipSpace r1))
  | _ => .fail

def leafAlt (s : Str) : PR Expr :=
  match eConst s with
  | some (v, r) => .ok (.const v) r
  | none =>
    match ch s with
    | some (c, r) => .ok (.const (c.toNat : Int)) r
    | none =>
      match identText s with
      | some (n, r) => .ok (.ident n) r
      | none => .fail

def alt (a b : PR Expr) : PR Expr :=
  match a with
  | .ok e r => .ok e r
  | .oof => .oof
  | .fail => b

def atomWith (pi : Str → PR Expr) (s : Str) : PR Expr := alt (funcAlt pi s) (alt (parenAlt pi s) (leafAlt s))

theorem parseAtom_succ (f : Nat) (s : Str) : parseAtom (f + 1) s = atomWith (parseInfix f 0) s := by
  rfl

theorem atomWith_on (pi : Str → PR Expr) (s : Str) :
    atomWith pi s = on (funcAlt pi s) .ok (on (parenAlt pi s) .ok (leafAlt s)) := by
  unfold atomWith alt
  cases funcAlt pi s <;> cases parenAlt pi s <;> rfl

theorem leafAlt_ok {s : Str} {e : Expr} {r : Str} (h : leafAlt s = .ok e r) :
    (∃ v, eConst s = some (v, r) ∧ e = .const v) ∨ (∃ c, ch s = some (c, r) ∧ e = .const (c.toNat : Int)) ∨
      ∃ n, identText s = some (n, r) ∧ e = .ident n := by
  unfold leafAlt at h
  split at h
  · rename_i hc; obtain ⟨rfl, rfl⟩ := h; exact Or.inl ⟨_, hc, rfl⟩
  · split at h
    · rename_i hc; obtain ⟨rfl, rfl⟩ := h; exact Or.inr (Or.inl ⟨_, hc, rfl⟩)
    · split at h
      · rename_i hc; obtain ⟨rfl, rfl⟩ := h; exact Or.inr (Or.inr ⟨_, hc, rfl⟩)
      · simp at h

theorem leafAlt_ne_oof (s : Str) : leafAlt s ≠ .oof := by
  unfold leafAlt
  repeat' split
  all_goals simp

theorem leafAlt_len {s : Str} {e : Expr} {r : Str} (h : leafAlt s = .ok e r) : r.length ≤ s.length := by
  rcases leafAlt_ok h with ⟨v, hc, _⟩ | ⟨c, hc, _⟩ | ⟨n, hc, _⟩
  · exact eConst_len hc
  · exact ch_len _ _ _ hc
  · exact Nat.le_of_lt (identText_len hc)

theorem funcAlt_none {pi : Str → PR Expr} {s : Str} (h : identText s = none) : funcAlt pi s = .fail := by
  simp only [funcAlt, h]

theorem funcAlt_no_paren {pi : Str → PR Expr} {s n r1 : Str} (h : identText s = some (n, r1))
    (hp : ∀ r2, skipSpace r1 ≠ '(' :: r2) : funcAlt pi s = .fail := by
  unfold funcAlt
  rw [h]
  dsimp only
  split
  · exact absurd ‹_› (hp _)
  · rfl

theorem funcAlt_call {pi : Str → PR Expr} {s n r1 r2 : Str} (h : identText s = some (n, r1))
    (hp : skipSpace r1 = '(' :: r2) : funcAlt pi s = closing (.func (.ident n)) (pi (skipSpace r2)) := by
  simp only [funcAlt, h, hp]

theorem parenAlt_fail {pi : Str → PR Expr} {c : Char} {cs : Str} (h : c ≠ '(') : parenAlt pi (c :: cs) = .fail := by
  unfold parenAlt
  split
  · rename_i heq; exact absurd (List.cons.inj heq).1 h
  · rfl

theorem closing_paren {mk : Expr → Expr} {a : Expr} {r r' : Str} (h : skipSpace r = ')' :: r') :
    closing mk (.ok a r) = .ok (mk a) r' := by
  simp only [closing, on, h]

theorem atomWith_leaf {pi : Str → PR Expr} {s : Str} (hf : funcAlt pi s = .fail) (hp : parenAlt pi s = .fail) :
    atomWith pi s = leafAlt s := by
  simp only [atomWith, alt, hf, hp]

/-! ### what a rule leaves over -/

/-- `P s e r`: "from `s` the parser may return `e` and leave `r`".  It holds of every answer as soon
    as it holds of the leaves and is kept by the four ways an answer is built from others. -/
structure Closed (P : Str → Expr → Str → Prop) : Prop where
  leaf : ∀ {s e r}, leafAlt s = .ok e r → P s e r
  call : ∀ {s n r1 r2 a r3 r}, identText s = some (n, r1) → skipSpace r1 = '(' :: r2 → P (skipSpace r2) a r3 →
    skipSpace r3 = ')' :: r → P s (.func (.ident n) a) r
  paren : ∀ {r1 a r2 r}, P (skipSpace r1) a r2 → skipSpace r2 = ')' :: r → P ('(' :: r1) a r
  un : ∀ {s t u lv s1 a r}, (t, u, lv) ∈ prefixOps → lit t s = some s1 → P (skipSpace s1) a r → P s (.un u a) r
  bin : ∀ {s l r1 t b lv rlv s1 a r}, (t, b, lv, rlv) ∈ infixOps → P s l r1 → lit t (skipSpace r1) = some s1 →
    P (skipSpace s1) a r → P s (.bin b l a) r

theorem closing_post {Φ Ψ : Expr → Str → Prop} {mk : Expr → Expr} {p : PR Expr} (hp : Post Φ p)
    (h : ∀ a r0 r, Φ a r0 → skipSpace r0 = ')' :: r → Ψ (mk a) r) : Post Ψ (closing mk p) := by
  refine on_post hp (fun a r0 ha => ?_) nofun
  split
  · exact .ok (h _ _ _ ha ‹_›)
  · exact nofun

theorem atomWith_post {P : Str → Expr → Str → Prop} (hP : Closed P) {pi : Str → PR Expr} (hpi : ∀ x, Post (P x) (pi x))
    (s : Str) : Post (P s) (atomWith pi s) := by
  rw [atomWith_on]
  refine on_post (Φ := P s) ?_ (fun _ _ => .ok) (on_post (Φ := P s) ?_ (fun _ _ => .ok) fun _ _ => hP.leaf)
  · unfold funcAlt
    split
    · split
      · exact closing_post (hpi _) fun _ _ _ => hP.call ‹_› ‹_›
      · exact nofun
    · exact nofun
  · unfold parenAlt
    split
    · exact closing_post (hpi _) fun _ _ _ => hP.paren
    · exact nofun

theorem Closed.all {P : Str → Expr → Str → Prop} (hP : Closed P) : ∀ f,
    (∀ m s, Post (P s) (parseInfix f m s)) ∧
    (∀ s, Post (P s) (parsePrefixAtom f s)) ∧
    (∀ l s, (∀ x ∈ l, x ∈ prefixOps) → Post (P s) (tryPrefix f l s)) ∧
    (∀ s, Post (P s) (parseAtom f s)) ∧
    (∀ m s' e0 s, P s' e0 s → Post (P s') (parseLoop f m e0 s)) ∧
    (∀ m l s' e0 s, (∀ x ∈ l, x ∈ infixOps) → P s' e0 s → Post (P s') (tryInfix f m l e0 s s))
  | 0 => ⟨nofun, nofun, nofun, nofun, nofun, nofun⟩
  | f + 1 => by
    obtain ⟨hI, hPA, hTP, hA, hL, hTI⟩ := hP.all f
    refine ⟨fun m s => ?_, fun s => hTP _ s fun _ h => h, fun l s hl => ?_, fun s => ?_,
      fun m s' e0 s => hTI m _ s' e0 s fun _ h => h, fun m l s' e0 s hl h0 => ?_⟩
    · rw [parseInfix_succ]
      exact on_post (hPA s) (fun e r => hL m s e r) nofun
    · match l with
      | [] => exact hA s
      | (t, u, lv) :: more =>
        have hmore : ∀ x ∈ more, x ∈ prefixOps := fun x hx => hl x (List.mem_cons_of_mem _ hx)
        rcases tryPrefix_cons t u lv more s with h | ⟨s1, hl1, h⟩ <;> rw [h]
        · exact hTP more s hmore
        · exact on_post (hI lv _) (fun e r he => .ok (hP.un (hl _ (List.mem_cons_self ..)) hl1 he)) (hTP more s hmore)
    · rw [parseAtom_succ]
      exact atomWith_post hP (hI 0) s
    · match l with
      | [] => exact .ok h0
      | (t, b, lv, rl) :: more =>
        have hmore : ∀ x ∈ more, x ∈ infixOps := fun x hx => hl x (List.mem_cons_of_mem _ hx)
        rcases tryInfix_cons m t b lv rl more e0 s s with h | ⟨s1, hl1, h⟩ <;> rw [h]
        · exact hTI m more s' e0 s hmore h0
        · exact on_post (hI rl _) (fun a r ha => hL m s' _ r (hP.bin (hl _ (List.mem_cons_self ..)) h0 hl1 ha))
            (hTI m more s' e0 s hmore h0)

theorem Closed.infix {P : Str → Expr → Str → Prop} (hP : Closed P) {f m : Nat} {s : Str} {e : Expr} {r : Str}
    (h : parseInfix f m s = .ok e r) : P s e r :=
  (hP.all f).1 m s e r h

theorem closed_len : Closed fun s _ r => r.length ≤ s.length where
  leaf := leafAlt_len
  call := fun {s n r1 r2 a r3 r} hid h1 hp h3 => by
    have := identText_len hid
    have := skipSpace_cons_len h1
    have := skipSpace_len r2
    have := skipSpace_cons_len h3
    omega
  paren := fun {r1 a r2 r} hp h2 => by
    have := skipSpace_len r1
    have := skipSpace_cons_len h2
    simp only [List.length_cons]; omega
  un := fun {s t u lv s1 a r} _ hl hp => by
    have := lit_len _ _ _ hl
    have := skipSpace_len s1
    omega
  bin := fun {s l r1 t b lv rlv s1 a r} _ h0 hl hp => by
    have := lit_len _ _ _ hl
    have := skipSpace_len r1
    have := skipSpace_len s1
    omega

theorem parseInfix_len {f m : Nat} {s : Str} {e : Expr} {r : Str} (h : parseInfix f m s = .ok e r) : r.length ≤ s.length :=
  closed_len.infix h

theorem prefixAtom_len {f : Nat} {s : Str} {e : Expr} {r : Str} (h : parsePrefixAtom f s = .ok e r) : r.length ≤ s.length :=
  (closed_len.all f).2.1 s e r h

/-! ### enough fuel -/

/-- fuel per character of input: one pass over the two operator tables plus the fixed steps -/
def K : Nat := prefixOps.length + infixOps.length + 8

/-- for `omega`, which does not unfold `K` -/
theorem K_eq : K = prefixOps.length + infixOps.length + 8 := rfl

theorem exprFuel_eq (s : Str) : exprFuel s = (s.length + 2) * K := rfl

def Enough (n : Nat) : Prop :=
  ∀ s : Str, s.length < n → ∀ f, n * K ≤ f →
    (∀ m, parseInfix f m s ≠ .oof) ∧ (∀ m e0, parseLoop f m e0 s ≠ .oof)

theorem closing_ne_oof {mk : Expr → Expr} {p : PR Expr} (hp : p ≠ .oof) : closing mk p ≠ .oof := by
  refine on_ne_oof hp (fun _ _ _ => ?_) nofun
  split <;> exact nofun

theorem atomWith_ne_oof {pi : Str → PR Expr} {s : Str}
    (hf : ∀ n r1 r2, identText s = some (n, r1) → skipSpace r1 = '(' :: r2 → pi (skipSpace r2) ≠ .oof)
    (hp : ∀ r1, s = '(' :: r1 → pi (skipSpace r1) ≠ .oof) : atomWith pi s ≠ .oof := by
  rw [atomWith_on]
  refine on_ne_oof ?_ (fun _ _ _ => nofun) (on_ne_oof ?_ (fun _ _ _ => nofun) (leafAlt_ne_oof s))
  · unfold funcAlt
    split
    · split
      · exact closing_ne_oof (hf _ _ _ ‹_› ‹_›)
      · exact nofun
    · exact nofun
  · unfold parenAlt
    split
    · exact closing_ne_oof (hp _ rfl)
    · exact nofun

theorem atom_ok (n : Nat) (hQ : Enough n) (s : Str) (hs : s.length ≤ n) (f : Nat) (hf : n * K + 1 ≤ f) :
    parseAtom f s ≠ .oof := by
  obtain ⟨g, rfl⟩ : ∃ g, f = g + 1 := ⟨f - 1, by omega⟩
  rw [parseAtom_succ]
  refine atomWith_ne_oof (fun nm r1 r2 hid h1 => ?_) (fun r1 hs1 => ?_)
  · have := identText_len hid
    have := skipSpace_cons_len h1
    have := skipSpace_len r2
    exact (hQ _ (by omega) g (by omega)).1 0
  · have := skipSpace_len r1
    rw [hs1, List.length_cons] at hs
    exact (hQ _ (by omega) g (by omega)).1 0

theorem tryPrefix_ok (n : Nat) (hQ : Enough n) (s : Str) (hs : s.length ≤ n) :
    ∀ (l : List (Str × UnOp × Nat)), (∀ x ∈ l, x.1 ≠ []) → ∀ f, n * K + l.length + 2 ≤ f → tryPrefix f l s ≠ .oof
  | [], _, f, hf => by
    obtain ⟨g, rfl⟩ : ∃ g, f = g + 1 := ⟨f - 1, by omega⟩
    exact atom_ok n hQ s hs g (by omega)
  | (t, u, lv) :: more, hne, f, hf => by
    obtain ⟨g, rfl⟩ : ∃ g, f = g + 1 := ⟨f - 1, by omega⟩
    rw [List.length_cons] at hf
    have ih := tryPrefix_ok n hQ s hs more (fun x hx => hne x (List.mem_cons_of_mem _ hx)) g (by omega)
    rcases tryPrefix_cons t u lv more s with h | ⟨s1, hl, h⟩ <;> rw [h]
    · exact ih
    · have := lit_len _ _ _ hl
      have ht : t ≠ [] := hne (t, u, lv) (List.mem_cons_self ..)
      have := List.length_pos_iff.mpr ht
      have := skipSpace_len s1
      exact on_ne_oof ((hQ _ (by omega) g (by omega)).1 lv) (fun _ _ _ => nofun) ih

theorem prefixAtom_ok (n : Nat) (hQ : Enough n) (s : Str) (hs : s.length ≤ n) (f : Nat)
    (hf : n * K + prefixOps.length + 3 ≤ f) : parsePrefixAtom f s ≠ .oof := by
  obtain ⟨g, rfl⟩ : ∃ g, f = g + 1 := ⟨f - 1, by omega⟩
  exact tryPrefix_ok n hQ s hs prefixOps prefix_tokens g (by omega)

theorem tryInfix_ok (n : Nat) (hQ : Enough n) (s : Str) (hs : s.length ≤ n) (m : Nat) (s0 : Str) :
    ∀ (l : List (Str × BinOp × Nat × Nat)), (∀ x ∈ l, x.1 ≠ []) → ∀ f, n * K + l.length + 1 ≤ f →
      ∀ e0, tryInfix f m l e0 s0 s ≠ .oof
  | [], _, f, hf, e0 => by
    obtain ⟨g, rfl⟩ : ∃ g, f = g + 1 := ⟨f - 1, by omega⟩
    exact nofun
  | (t, b, lv, rl) :: more, hne, f, hf, e0 => by
    obtain ⟨g, rfl⟩ : ∃ g, f = g + 1 := ⟨f - 1, by omega⟩
    rw [List.length_cons] at hf
    have ih := tryInfix_ok n hQ s hs m s0 more (fun x hx => hne x (List.mem_cons_of_mem _ hx)) g (by omega) e0
    rcases tryInfix_cons m t b lv rl more e0 s0 s with h | ⟨s1, hl, h⟩ <;> rw [h]
    · exact ih
    · have := lit_len _ _ _ hl
      have ht : t ≠ [] := hne (t, b, lv, rl) (List.mem_cons_self ..)
      have := List.length_pos_iff.mpr ht
      have := skipSpace_len s
      have := skipSpace_len s1
      refine on_ne_oof ((hQ _ (by omega) g (by omega)).1 rl) (fun a r hp => ?_) ih
      have := parseInfix_len hp
      exact (hQ r (by omega) g (by omega)).2 m _

theorem loop_ok (n : Nat) (hQ : Enough n) (s : Str) (hs : s.length ≤ n) (f : Nat)
    (hf : n * K + infixOps.length + 2 ≤ f) (m : Nat) (e0 : Expr) : parseLoop f m e0 s ≠ .oof := by
  obtain ⟨g, rfl⟩ : ∃ g, f = g + 1 := ⟨f - 1, by omega⟩
  exact tryInfix_ok n hQ s hs m s infixOps infix_tokens g (by omega) e0

theorem infix_ok (n : Nat) (hQ : Enough n) (s : Str) (hs : s.length ≤ n) (f : Nat)
    (hf : n * K + K ≤ f) (m : Nat) : parseInfix f m s ≠ .oof := by
  have hK := K_eq
  obtain ⟨g, rfl⟩ : ∃ g, f = g + 1 := ⟨f - 1, by omega⟩
  rw [parseInfix_succ]
  refine on_ne_oof (prefixAtom_ok n hQ s hs g (by omega)) (fun e r hp => ?_) nofun
  have := prefixAtom_len hp
  exact loop_ok n hQ r (by omega) g (by omega) m e

theorem q_all : ∀ n, Enough n := by
  intro n
  induction n with
  | zero => intro s hs; omega
  | succ n ih =>
    intro s hs f hf
    have hK := K_eq
    have hmul : (n + 1) * K = n * K + K := Nat.succ_mul n K
    refine ⟨fun m => infix_ok n ih s (by omega) f (by omega) m, fun m e0 => loop_ok n ih s (by omega) f (by omega) m e0⟩

/-- **the expression parser never runs out of the fuel it is given** -/
theorem expr_no_oof (s : Str) : expr s ≠ .oof := by
  unfold expr
  rw [exprFuel_eq]
  have hmul : (s.length + 2) * K = (s.length + 1) * K + K := Nat.succ_mul _ K
  exact (q_all (s.length + 1) s (by omega) _ (by omega)).1 0

theorem expr_len {s : Str} {e : Expr} {r : Str} (h : expr s = .ok e r) : r.length ≤ s.length :=
  parseInfix_len h

theorem prefixAtom_no_oof (s : Str) (f : Nat) (hf : (s.length + 2) * K ≤ f + 1) : parsePrefixAtom f s ≠ .oof := by
  have hK := K_eq
  have : (s.length + 2) * K = s.length * K + 2 * K := Nat.add_mul ..
  exact prefixAtom_ok s.length (q_all _) s (Nat.le_refl _) f (by omega)

/-! ### more fuel never changes an answer -/

theorem closing_keeps {mk : Expr → Expr} {p p' : PR Expr} (h : Keeps p p') : Keeps (closing mk p) (closing mk p') :=
  on_keeps h (fun _ _ => .rfl) .rfl

theorem atomWith_keeps {pi pi' : Str → PR Expr} (h : ∀ x, Keeps (pi x) (pi' x)) (s : Str) :
    Keeps (atomWith pi s) (atomWith pi' s) := by
  rw [atomWith_on, atomWith_on]
  refine on_keeps ?_ (fun _ _ => .rfl) (on_keeps ?_ (fun _ _ => .rfl) .rfl)
  · unfold funcAlt
    split
    · split
      · exact closing_keeps (h _)
      · exact .rfl
    · exact .rfl
  · unfold parenAlt
    split
    · exact closing_keeps (h _)
    · exact .rfl

theorem mono : ∀ f,
    (∀ m s, Keeps (parseInfix f m s) (parseInfix (f + 1) m s)) ∧
    (∀ s, Keeps (parsePrefixAtom f s) (parsePrefixAtom (f + 1) s)) ∧
    (∀ l s, Keeps (tryPrefix f l s) (tryPrefix (f + 1) l s)) ∧
    (∀ s, Keeps (parseAtom f s) (parseAtom (f + 1) s)) ∧
    (∀ m e0 s, Keeps (parseLoop f m e0 s) (parseLoop (f + 1) m e0 s)) ∧
    (∀ m l e0 s0 s, Keeps (tryInfix f m l e0 s0 s) (tryInfix (f + 1) m l e0 s0 s))
  | 0 => ⟨fun _ _ => .oof, fun _ => .oof, fun _ _ => .oof, fun _ => .oof, fun _ _ _ => .oof, fun _ _ _ _ _ => .oof⟩
  | f + 1 => by
    obtain ⟨hI, hPA, hTP, hA, hL, hTI⟩ := mono f
    refine ⟨fun m s => ?_, fun s => hTP _ s, fun l s => ?_, fun s => ?_, fun m e0 s => hTI m _ e0 s s, fun m l e0 s0 s => ?_⟩
    · rw [parseInfix_succ, parseInfix_succ]
      exact on_keeps (hPA s) (hL m) .rfl
    · match l with
      | [] => exact hA s
      | (t, u, lv) :: more =>
        rcases tryPrefix_cons t u lv more s with h | ⟨s1, _, h⟩ <;> rw [h f, h (f + 1)]
        · exact hTP more s
        · exact on_keeps (hI lv _) (fun _ _ => .rfl) (hTP more s)
    · rw [parseAtom_succ, parseAtom_succ]
      exact atomWith_keeps (hI 0) s
    · match l with
      | [] => exact .rfl
      | (t, b, lv, rl) :: more =>
        rcases tryInfix_cons m t b lv rl more e0 s0 s with h | ⟨s1, _, h⟩ <;> rw [h f, h (f + 1)]
        · exact hTI m more e0 s0 s
        · exact on_keeps (hI rl _) (fun a r => hL m _ r) (hTI m more e0 s0 s)

/-! ### answers stated without fuel -/

def Persist {α : Type} (p : Nat → PR α) : Prop := ∀ f, Keeps (p f) (p (f + 1))

/-- the answer of `p`, stated without fuel; `Ans.at_fuel` is why `∃ f` is enough -/
def Ans {α : Type} (p : Nat → PR α) (res : PR α) : Prop := res ≠ .oof ∧ ∃ f, p f = res

theorem Persist.le {α : Type} {p : Nat → PR α} (hp : Persist p) {f f' : Nat} (hle : f ≤ f') : Keeps (p f) (p f') := by
  induction hle with
  | refl => exact .rfl
  | step _ ih => exact fun hn => (hp _ (ih hn ▸ hn)).trans (ih hn)

theorem Ans.at_fuel {α : Type} {p : Nat → PR α} (hp : Persist p) {res : PR α} (h : Ans p res) {f : Nat}
    (hf : p f ≠ .oof) : p f = res := by
  obtain ⟨hn, g, rfl⟩ := h
  exact (hp.le (Nat.le_max_right g f) hf).symm.trans (hp.le (Nat.le_max_left g f) hn)

theorem Ans.at {α : Type} {p : Nat → PR α} (hp : Persist p) {res : PR α} (h : Ans p res) :
    ∃ f, ∀ f', f ≤ f' → p f' = res := by
  obtain ⟨hn, f, rfl⟩ := h
  exact ⟨f, fun _ hle => hp.le hle hn⟩

theorem Ans.unique {α : Type} {p : Nat → PR α} (hp : Persist p) {r r' : PR α} (h : Ans p r) (h' : Ans p r') : r = r' := by
  obtain ⟨f, hf⟩ := h.2
  rw [← hf]; exact h'.at_fuel hp (by rw [hf]; exact h.1)

theorem persistI (m s) : Persist (parseInfix · m s) := fun f => (mono f).1 m s
theorem persistPA (s) : Persist (parsePrefixAtom · s) := fun f => (mono f).2.1 s
theorem persistL (m e s) : Persist (parseLoop · m e s) := fun f => (mono f).2.2.2.2.1 m e s

/-! ### the rules built on `expr`

Each of these rules is a tree of matches on the answers of the rules it calls; the proofs split the
tree.  A leaf answers `fail` or a literal value, or hands on the answer of an inner rule (that rule's
lemma). -/

theorem reg16_len (s : Str) (v : Reg16) (r : Str) (h : reg16 s = some (v, r)) : r.length ≤ s.length := by
  unfold reg16 at h
  split at h
  · repeat' split at h
    all_goals first
      | (simp only [Option.some.injEq, Prod.mk.injEq] at h; obtain ⟨_, rfl⟩ := h; simp only [List.length_cons]; omega)
      | (simp at h; done)
  · simp at h

theorem reg8_len (s : Str) (x : Nat) (r : Str) (h : reg8 s = some (x, r)) : r.length ≤ s.length := by
  unfold reg8 at h
  repeat' split at h
  all_goals first
    | (simp at h; done)
    | (simp only [Option.map_eq_some_iff, Prod.mk.injEq] at h; obtain ⟨_, _, _, rfl⟩ := h; simp only [List.length_cons]; omega)

/-- the two things `sepList_no_oof` asks of the rule it repeats -/
def Within {α : Type} (s : Str) (p : PO α) : Prop := p ≠ .oof ∧ ∀ v r, p = .ok v r → r.length ≤ s.length

theorem Within.ok {α : Type} {s : Str} {v : α} {r : Str} (h : r.length ≤ s.length) : Within s (.ok v r) :=
  ⟨nofun, fun _ _ e => by cases e; exact h⟩

theorem Within.fail {α : Type} {s : Str} : Within s (.fail : PO α) := ⟨nofun, nofun⟩

theorem indexOps_within (s : Str) : Within s (indexOps s) := by
  unfold indexOps
  dsimp only
  split
  · rename_i ha
    split at ha
    · simp only [Option.map_eq_some_iff] at ha
      obtain ⟨⟨q, rest⟩, hx, hy⟩ := ha
      obtain ⟨_, rfl⟩ := hy
      have := reg16_len _ _ _ hx
      exact .ok (by simp only [List.length_cons]; omega)
    · simp at ha
  · split
    · exact .fail
    · rename_i q r1 hx
      have h1 := reg16_len _ _ _ hx
      have alt : Within s (match r1 with
          | '+' :: r' => PO.ok (IndexOps.postInc q) r'
          | c :: _ => if isIdentChar c = true then PO.fail else PO.ok (IndexOps.none q) r1
          | [] => PO.ok (IndexOps.none q) r1) := by
        split
        · exact .ok (by simp only [List.length_cons] at h1; omega)
        · split
          · exact .fail
          · exact .ok h1
        · exact .ok h1
      split
      · rename_i r2 hsp
        split
        · rename_i e rest hp
          have := skipSpace_cons_len hsp
          have := expr_len hp
          have := skipSpace_len r2
          exact .ok (by omega)
        · exact absurd ‹_› (expr_no_oof _)
        · exact alt
      · exact alt

theorem instructionOps_within (s : Str) : Within s (instructionOps s) := by
  unfold instructionOps
  split
  · exact .ok ((indexOps_within s).2 _ _ ‹_›)
  · exact absurd ‹_› (indexOps_within s).1
  · split
    · exact .ok (reg8_len _ _ _ ‹_›)
    · split
      · exact .ok (expr_len ‹_›)
      · exact absurd ‹_› (expr_no_oof s)
      · exact .fail

theorem string_len (s t r : Str) (h : Peg.string s = some (t, r)) : r.length ≤ s.length := by
  unfold Peg.string at h
  split at h
  · rename_i cs
    dsimp only at h
    split at h
    · rename_i rest hr
      obtain ⟨_, rfl⟩ := h
      have := takeWhileP_len notStrEnd cs
      rw [hr] at this; simp only [List.length_cons] at this ⊢; omega
    · simp at h
  · simp at h

theorem directiveOp_within (s : Str) : Within s (directiveOp s) := by
  unfold directiveOp
  split
  · exact .ok (expr_len ‹_›)
  · exact absurd ‹_› (expr_no_oof s)
  · split
    · exact .ok (string_len _ _ _ ‹_›)
    · exact .fail

theorem delimiter_len (s s1 : Str) (h : delimiter s = some s1) : s1.length < s.length := by
  unfold delimiter at h
  split at h
  · rename_i r hsp
    simp only [Option.some.injEq] at h; subst h
    have h1 := skipSpace_len s
    have h2 := skipSpace_len r
    rw [hsp] at h1; simp only [List.length_cons] at h1; omega
  · simp at h

/-- the list tail: every further element costs a comma, so `length + 1` rounds are enough -/
theorem sepTail_no_oof {α : Type} (p : Str → PO α) (hp1 : ∀ s, p s ≠ .oof)
    (hp2 : ∀ s v r, p s = .ok v r → r.length ≤ s.length) :
    ∀ (f : Nat) (acc : List α) (s : Str), s.length < f → sepTail p f acc s ≠ .oof := by
  intro f
  induction f with
  | zero => intro acc s hs; omega
  | succ f ih =>
    intro acc s hs h
    simp only [sepTail] at h
    split at h
    · simp at h
    · rename_i s1 hd
      have h1 := delimiter_len _ _ hd
      split at h
      · rename_i v r hp
        have h2 := hp2 _ _ _ hp
        exact ih _ r (by omega) h
      · rename_i hp; exact hp1 _ hp
      · simp at h

theorem sepList_no_oof {α : Type} (p : Str → PO α) (hp : ∀ s, Within s (p s)) (s : Str) : sepList p s ≠ .oof := by
  intro h
  unfold sepList at h
  split at h
  · rename_i v r hv
    have := (hp s).2 _ _ hv
    exact sepTail_no_oof p (fun s => (hp s).1) (fun s => (hp s).2) _ _ r (by omega) h
  · exact (hp s).1 ‹_›
  · simp at h

theorem opList_no_oof (s : Str) : opList s ≠ .oof :=
  sepList_no_oof _ instructionOps_within s

theorem spacedOps_no_oof : ∀ (n : Nat) (s : Str), spacedOps n s ≠ .oof
  | 0, s => by simp [spacedOps]
  | 1, s => by
    intro h
    simp only [spacedOps] at h
    split at h
    · simp at h
    · rename_i hp; exact (directiveOp_within _).1 hp
    · simp at h
  | n + 2, s => by
    intro h
    simp only [spacedOps] at h
    split at h
    · split at h
      · split at h
        · simp at h
        · rename_i hp; exact spacedOps_no_oof (n + 1) _ hp
        · simp at h
      · simp at h
    · rename_i hp; exact (directiveOp_within _).1 hp
    · simp at h

theorem tryN_no_oof (s : Str) : ∀ l : List Nat, directiveOps.tryN s l ≠ .oof := by
  intro l
  induction l with
  | nil =>
    intro h
    simp only [directiveOps.tryN] at h
    split at h
    · simp at h
    · rename_i hp; exact sepList_no_oof _ directiveOp_within s hp
    · simp at h
  | cons n ns ih =>
    intro h
    simp only [directiveOps.tryN] at h
    split at h
    · simp at h
    · rename_i hp; exact spacedOps_no_oof _ _ hp
    · exact ih h

theorem directiveOps_no_oof (s : Str) : directiveOps s ≠ .oof := by
  intro h
  unfold directiveOps at h
  dsimp only at h
  split at h
  · simp at h
  · rename_i heq
    repeat' split at heq
    all_goals first
      | (simp at heq; done)
      | (exact expr_no_oof _ ‹_›)
  · exact tryN_no_oof s _ h

/-- **no line makes the parser run out of fuel** -/
theorem line_no_oof (s : Str) : line s ≠ .oof := by
  intro h
  unfold line at h
  dsimp only at h
  split at h
  · split at h <;> simp at h
  · rename_i heq
    repeat' split at heq
    all_goals first
      | (simp at heq; done)
      | (exact directiveOps_no_oof _ ‹_›)
  · split at h
    · split at h <;> simp at h
    · rename_i heq
      repeat' split at heq
      all_goals first
        | (simp at heq; done)
        | (exact opList_no_oof _ ‹_›)
    · repeat' split at h
      all_goals simp at h

end Avra.Lemmas.Fuel
