/-
  Operand resolution and `process`.  Evaluation never gives up (`eval_ne_oof`), so `resolve` is a
  total function (`resolved`, `resolve_eq`); what is said about resolved operands — their number,
  that their registers are real ones — is proved about that list and stated, as the callers have it,
  for `resolve … = some r`; `process` is `mWords` of the resolved operands (`process_eq`).
-/
import Avra.Lemmas.Fields
import Avra.Lemmas.EvalTotal
namespace Avra.Lemmas
open Avra.Model Avra.Isa Avra.Props.Enc

theorem symAt_ne_oof (c : Ctx) : ∀ (k : Nat) (n : Str), symAt c k n ≠ .oof := by
  intro k
  induction k with
  | zero => intro n; simp only [symAt]; repeat' split <;> simp
  | succ k ih =>
    intro n
    simp only [symAt]
    split
    · simp
    · exact evalWith_ne_oof _ ih _
    · simp

/-- expression evaluation is bounded by the size of the expression and by MAX_SYMBOL_DEPTH -/
theorem eval_ne_oof (c : Ctx) (e : Expr) : eval c e ≠ .oof :=
  evalWith_ne_oof _ (symAt_ne_oof c maxSymbolDepth) e

theorem resolveOne_some (c : Ctx) (a : Acc) (o : IOp) : (resolveOne c a o).isSome = true := by
  -- an accessor gives up only where an evaluation does: of a value, of the displacement in an index
  cases a <;> rcases o with n | (r | r | ⟨r, e⟩ | r) | e <;> try rfl
  all_goals
    simp only [resolveOne, asVal, asIdx, resolveIndex, Option.isSome_map]
    rcases h : eval c e with v | k | _
    · rfl
    · rfl
    · exact absurd h (eval_ne_oof c e)

/-- `.bad` where the mnemonic has no accessor for the position -/
def resolved (c : Ctx) : List Acc → List IOp → List AArg
  | a :: as, o :: os => (resolveOne c a o).getD .bad :: resolved c as os
  | _, [] => []
  | [], _ :: os => .bad :: resolved c [] os

theorem resolve_eq (c : Ctx) : ∀ (accs : List Acc) (args : List IOp), resolve c accs args = some (resolved c accs args) := by
  intro accs args
  induction args generalizing accs with
  | nil => cases accs <;> rfl
  | cons o os ih =>
    cases accs with
    | nil => simp [resolve, resolved, ih]
    | cons a as =>
      have h1 := resolveOne_some c a o
      cases hr : resolveOne c a o with
      | none => rw [hr] at h1; cases h1
      | some x => simp [resolve, resolved, hr, ih]

theorem resolve_length (c : Ctx) (accs : List Acc) (args : List IOp) (r : List AArg)
    (h : resolve c accs args = some r) : r.length = args.length := by
  rw [resolve_eq] at h; cases h
  induction accs, args using resolved.induct <;> simp [resolved, *]

/-- registers written in the source are r0..r31 (the grammar's `reg8` yields nothing else) -/
def iopsOk : List IOp → Prop
  | [] => True
  | .r8 n :: rest => n < 32 ∧ iopsOk rest
  | _ :: rest => iopsOk rest

/-- every live `.def` alias names a real register (pass 2 stores only `regOfName` results) -/
def ctxRegsOk (c : Ctx) : Prop := ∀ name n, c.getDef name = some n → n < 32

theorem regsOk_cons (x : AArg) (xs : List AArg) : regsOk (x :: xs) ↔ (∀ n, x = .reg n → n < 32) ∧ regsOk xs := by
  cases x <;> simp [regsOk]

theorem iopsOk_cons (o : IOp) (os : List IOp) : iopsOk (o :: os) ↔ (∀ n, o = .r8 n → n < 32) ∧ iopsOk os := by
  cases o <;> simp [iopsOk]

/-- only the register accessor yields a register: the one written, or the one a live alias names -/
theorem resolveOne_reg (c : Ctx) (hc : ctxRegsOk c) (a : Acc) (o : IOp) (ho : ∀ m, o = .r8 m → m < 32) (n : Nat)
    (h : (resolveOne c a o).getD .bad = .reg n) : n < 32 := by
  cases a with
  | reg =>
    simp only [resolveOne, Option.getD_some] at h
    cases hr : asReg c o with
    | none => rw [hr] at h; cases h
    | some m =>
      rw [hr] at h; cases h
      cases o with
      | r8 k => cases hr; exact ho _ rfl
      | index i => cases hr
      | e e =>
        cases e with
        | ident name => exact hc name _ hr
        | _ => cases hr
  | val =>
    cases o with
    | e e => simp only [resolveOne, asVal] at h; split at h <;> cases h
    | _ => cases h
  | idx =>
    cases o with
    | index i => simp only [resolveOne, asIdx] at h; cases hi : resolveIndex c i <;> rw [hi] at h <;> cases h
    | _ => cases h

theorem resolve_regsOk (c : Ctx) (hc : ctxRegsOk c) : ∀ (accs : List Acc) (args : List IOp) (r : List AArg),
    iopsOk args → resolve c accs args = some r → regsOk r := by
  intro accs args r hok h
  rw [resolve_eq] at h; cases h
  induction args generalizing accs with
  | nil => cases accs <;> trivial
  | cons o os ih =>
    have ho := (iopsOk_cons o os).1 hok
    cases accs with
    | nil => exact ih [] ho.2
    | cons a as => exact (regsOk_cons _ _).2 ⟨resolveOne_reg c hc a o ho.1, ih as ho.2⟩

theorem wordsBytes_eq (ws : W) : ∀ l, wordsOf ws = some l → ∃ x, ws = some x ∧ wordsBytes x = Isa.bytes l := by
  intro l h
  rcases ws with _ | ⟨w, _ | w2⟩ <;> cases h <;> exact ⟨_, rfl, by simp [wordsBytes, Isa.bytes, leBytes]⟩

theorem process_eq (c : Ctx) (op : Op) (args : List IOp) (addr : Nat) (r : List AArg)
    (hres : resolve c (accessors op) args = some r) :
    process c op args addr =
      match mWords c.device.isAvr8l op r addr with
      | some ws => .ok (Isa.bytes ws)
      | none => .err := by
  unfold process mWords
  rw [resolve_length c _ _ _ hres, hres]
  -- the two sides ask the same three questions (a row in the table? so many operands allowed? one
  -- word or two?) in different order
  rcases info c.device.isAvr8l op with _ | ⟨l, base⟩ <;> cases (allowedArgs op).contains args.length <;> try rfl
  dsimp only
  rcases encodeR c.device.isAvr8l op r addr base with _ | ⟨w, _ | w2⟩ <;> rfl

theorem process_ne_oof (c : Ctx) (op : Op) (args : List IOp) (addr : Nat) : process c op args addr ≠ .oof := by
  rw [process_eq c op args addr _ (resolve_eq c _ args)]
  split <;> nofun

end Avra.Lemmas
