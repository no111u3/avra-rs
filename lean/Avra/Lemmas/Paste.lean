/-
  Composition of the line loop over concatenated texts ("pasting"): a text that the loop completes
  (`Completes`: nothing is left open at its end) can be followed by more text, and the loop over the
  whole is the loop over the rest from where the first part ended (`run_append`, `run_alone`).
-/
import Avra.Lemmas.Iter
namespace Avra.Lemmas.Paste
open Avra.Model Avra.Lemmas.Skip Avra.Lemmas.Iter

/-- a skip that ends exactly with the last line of `ls1` (its `.endif` / `.endm` is the last line):
    alone it delivers nothing more; with more text after it, it delivers the first line of that text -/
def SkipsAll (st : PState) (ni : NextItem) (ls1 : List (Nat × Str)) (st' : PState) : Prop :=
  skipStep st ni ls1 = (st', none, false, [], false) ∧
  ∀ nx rest, skipStep st ni (ls1 ++ nx :: rest) = (st', some nx, false, rest, false)

/-- the loop over `ls1`, started at `(s, ni)`, works its way through ALL of `ls1` and ends with
    nothing pending (no skip still looking for its end, no `.exit`), in state `s'` -/
inductive Completes (inc : IncludeFn) (cur : Str) : PState × List Str → NextItem → List (Nat × Str) → PState × List Str → Prop
  | done (s : PState × List Str) : Completes inc cur s .newLine [] s
  | skipEnd (s : PState × List Str) (ni : NextItem) (ls : List (Nat × Str)) (st' : PState) :
      SkipsAll s.1 ni ls st' → Completes inc cur s ni ls (st', s.2)
  | step (s : PState × List Str) (ni : NextItem) (ls rest : List (Nat × Str)) (st1 st' : PState) (idx : Nat)
      (text : Str) (re : Bool) (incs' : List Str) (ni' : NextItem) (s'' : PState × List Str) :
      skipStep s.1 ni ls = (st1, some (idx, text), re, rest, false) →
      lineStep inc cur s.2 st1 idx text re = .ok (st', incs', ni') →
      Completes inc cur (st', incs') ni' rest s'' → Completes inc cur s ni ls s''

/-- **The append lemma.**  If the loop completes over `ls1`, then running it over `ls1 ++ ls2`
    is running it over `ls2` from the state `ls1` left, with nothing pending; in particular
    (`ls2 = []`) the run over `ls1` alone ends in that state. -/
theorem run_append (inc : IncludeFn) (cur : Str) (s : PState × List Str) (ni : NextItem)
    (ls1 : List (Nat × Str)) (s' : PState × List Str) (h : Completes inc cur s ni ls1 s') :
    ∀ ls2, runFrom inc cur s ni (ls1 ++ ls2) = runFrom inc cur s' .newLine ls2 := by
  induction h with
  | done s => intro ls2; rfl
  | skipEnd s ni ls st' hs =>
    intro ls2
    cases ls2 with
    | nil =>
      rw [List.append_nil, runFrom_step, hs.1, runFrom_step]
      simp [skipStep]
    | cons nx rest =>
      rw [runFrom_step, hs.2 nx rest, runFrom_step]
      simp [skipStep]
  | step s ni ls rest st1 st' idx text re incs' ni' s'' hsk hls _ ih =>
    intro ls2
    rw [runFrom_step, skipStep_local ls2 hsk]
    simp only [hls]
    exact ih ls2

theorem run_alone (inc : IncludeFn) (cur : Str) (s : PState × List Str) (ni : NextItem)
    (ls1 : List (Nat × Str)) (s' : PState × List Str) (h : Completes inc cur s ni ls1 s') :
    runFrom inc cur s ni ls1 = .ok s' := by
  have := run_append inc cur s ni ls1 s' h []
  rw [List.append_nil] at this
  rw [this, runFrom_step]
  simp [skipStep]

end Avra.Lemmas.Paste
