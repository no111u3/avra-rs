/-
  The `?` of the Rust code is the `>>=` of `Out`: what it does on each outcome, and
  `build_from_parsed`, `build_str`, `build_file` written as the chain of `?` they are, so that a
  statement about a successful build is a statement about the passes one after the other.  How a
  computation ends is said by `Out.Sat P Q` (a value `P` allows or a failure `Q` allows); through
  `Out.Sat.bind` such statements follow the chain of `?`.
-/
import Avra.Model.Build
namespace Avra.Model

@[simp] theorem Out.ok_bind {α β : Type} (v : α) (f : α → Out β) : (Out.ok v >>= f) = f v := rfl
@[simp] theorem Out.error_bind {α β : Type} (e : Err) (f : α → Out β) : (Out.error e >>= f) = .error e := rfl
@[simp] theorem Out.panic_bind {α β : Type} (s : String) (f : α → Out β) : (Out.panic s >>= f) = .panic s := rfl
@[simp] theorem Out.oof_bind {α β : Type} (f : α → Out β) : (Out.oof >>= f) = .oof := rfl

theorem Out.bind_eq_ok {α β : Type} {x : Out α} {f : α → Out β} {b : β} (h : (x >>= f) = .ok b) :
    ∃ a, x = .ok a ∧ f a = .ok b := by
  cases x with
  | ok a => exact ⟨a, rfl, h⟩
  | error e => cases h
  | panic s => cases h
  | oof => cases h

/-! ### how a computation ends -/

/-- a failure, whatever type the value would have had -/
inductive Fail
  | error (e : Err)
  | panic (site : String)
  | oof

def Out.Sat {α : Type} (P : α → Prop) (Q : Fail → Prop) : Out α → Prop
  | .ok v => P v
  | .error e => Q (.error e)
  | .panic s => Q (.panic s)
  | .oof => Q .oof

abbrev Out.FailsIn {α : Type} (Q : Fail → Prop) (r : Out α) : Prop := r.Sat (fun _ => True) Q

def Fail.errorIs (P : Err → Prop) : Fail → Prop
  | .error e => P e
  | _ => True

namespace Out.Sat
variable {α β : Type} {P : α → Prop} {Q : Fail → Prop} {x : Out α}

theorem ok (h : x.Sat P Q) {v : α} (hx : x = .ok v) : P v := by subst hx; exact h
theorem error (h : x.Sat P Q) {e : Err} (hx : x = .error e) : Q (.error e) := by subst hx; exact h
theorem panic (h : x.Sat P Q) {s : String} (hx : x = .panic s) : Q (.panic s) := by subst hx; exact h
theorem oof (h : x.Sat P Q) (hx : x = .oof) : Q .oof := by subst hx; exact h

theorem bind {P' : β → Prop} {f : α → Out β} (hx : x.Sat P Q) (hf : ∀ v, x = .ok v → P v → (f v).Sat P' Q) :
    (x >>= f).Sat P' Q := by
  cases x with
  | ok v => exact hf v rfl hx
  | error e => exact hx
  | panic s => exact hx
  | oof => exact hx

end Out.Sat

theorem Out.sat_of_ok {α : Type} {P : α → Prop} {x : Out α} (hp : ∀ v, x = .ok v → P v) : x.Sat P fun _ => True := by
  cases x <;> first | exact hp _ rfl | trivial

/-- `build_pass_0` walks the parsed segments as an expansion walks its later segments
    (`pass0Segs`), at the outermost nesting level -/
theorem pass0_segs (fs : Fs) (parsed : ParseResult) (ctx : Ctx) :
    pass0 fs parsed ctx = pass0Segs (pass0At fs parsed.macros macroDepth)
      { ctx := ctx, segments := [], messages := parsed.messages } parsed.segments := by
  unfold pass0
  generalize ({ ctx := ctx, segments := [], messages := parsed.messages } : PState) = st
  induction parsed.segments generalizing st with
  | nil => rfl
  | cons s more ih =>
    unfold pass0.go pass0Segs
    simp only [ih]
    cases s.t <;> rfl

/-- the capacity checks at the end of `build_from_parsed` -/
def fitResult (p2 : Pass2Result) : Out BuildResult :=
  let dev := p2.ctx.device
  if p2.code.length > dev.flash * 2 then noLineErr "flash-overdue"
  else if p2.eeprom.length > dev.eeprom then noLineErr "eeprom-overdue"
  else if p2.ramFilling > dev.ramSize then noLineErr "ram-overdue"
  else .ok { code := p2.code, eeprom := p2.eeprom, flashSize := dev.flash,
             eepromSize := dev.eeprom, ramSize := dev.ramSize,
             ramFilling := p2.ramFilling, messages := p2.messages }

theorem buildFromParsed_bind (fs : Fs) (st : PState) : buildFromParsed fs st =
    pass0 fs st.asParseResult st.ctx >>= fun p0 =>
    pass1 (p0.segments.filter fun s => !s.items.isEmpty) p0.messages p0.ctx >>= fun p1 =>
    pass2 p1 >>= fitResult := by
  unfold buildFromParsed
  cases pass0 fs st.asParseResult st.ctx with
  | ok p0 =>
    simp only [Out.ok_bind]
    cases pass1 (p0.segments.filter fun s => !s.items.isEmpty) p0.messages p0.ctx with
    | ok p1 => simp only [Out.ok_bind]; cases pass2 p1 <;> rfl
    | _ => rfl
  | _ => rfl

theorem buildStr_bind (fs : Fs) (src : Str) : buildStr fs src = parseStr fs src initCtx >>= buildFromParsed fs := by
  unfold buildStr; cases parseStr fs src initCtx <;> rfl

theorem buildFile_bind (fs : Fs) (path : Str) (incs : List Str) :
    buildFile fs path incs = parseFile fs path incs initCtx >>= buildFromParsed fs := by
  unfold buildFile; cases parseFile fs path incs initCtx <;> rfl

theorem fitResult_ok {p2 : Pass2Result} {b : BuildResult} (h : fitResult p2 = .ok b) :
    (p2.code.length ≤ 2 * p2.ctx.device.flash ∧ p2.eeprom.length ≤ p2.ctx.device.eeprom ∧
      p2.ramFilling ≤ p2.ctx.device.ramSize) ∧
    b = { code := p2.code, eeprom := p2.eeprom, flashSize := p2.ctx.device.flash, eepromSize := p2.ctx.device.eeprom,
          ramSize := p2.ctx.device.ramSize, ramFilling := p2.ramFilling, messages := p2.messages } := by
  unfold fitResult at h
  dsimp only at h
  repeat' split at h
  all_goals cases h
  exact ⟨by omega, rfl⟩

theorem buildFromParsed_ok {fs : Fs} {st : PState} {b : BuildResult} (h : buildFromParsed fs st = .ok b) :
    ∃ p0 p1 p2, pass0 fs st.asParseResult st.ctx = .ok p0 ∧
      pass1 (p0.segments.filter fun s => !s.items.isEmpty) p0.messages p0.ctx = .ok p1 ∧ pass2 p1 = .ok p2 ∧
      fitResult p2 = .ok b := by
  rw [buildFromParsed_bind] at h
  obtain ⟨p0, h0, h⟩ := Out.bind_eq_ok h
  obtain ⟨p1, h1, h⟩ := Out.bind_eq_ok h
  obtain ⟨p2, h2, h⟩ := Out.bind_eq_ok h
  exact ⟨p0, p1, p2, h0, h1, h2, h⟩

end Avra.Model
