/-
  The bit packing of every arm of the encoder model against the manual's patterns, on the arm's
  whole operand range.  Each is a fact about a bounded format and is settled by evaluation in the
  kernel (`decide +kernel` over `allIn`) — of one operand at a time: the Rust packing is an OR of
  shifted and masked pieces of single operands, and the word of a pattern is an OR of its constant
  bits and its field runs (`word_or`), so two fields are placed independently (`word_or2`) and a
  two-operand packing is right when it is right for each operand with the other one 0 (`pack2`:
  2^a + 2^b evaluations for 2^(a+b) operand pairs).  Where many mnemonics share one packing
  function and one field layout (register-register, register-immediate), the sweep is made once,
  against the layout with every constant bit 0, and the opcode of the individual mnemonic is added
  afterwards (`or_word`).
-/
import Avra.Model.Encode
import Avra.Lemmas.AllIn
namespace Avra.Lemmas
open Avra.Model Avra.Isa

theorem or_eq_add {a b : Nat} (h : a &&& b = 0) : a ||| b = a + b := by
  -- core has this for bit vectors; `a + b` bits hold both numbers
  have ha : a < 2 ^ (a + b) :=
    Nat.lt_of_lt_of_le Nat.lt_two_pow_self (Nat.pow_le_pow_right (by decide) (Nat.le_add_right a b))
  have hb : b < 2 ^ (a + b) :=
    Nat.lt_of_lt_of_le Nat.lt_two_pow_self (Nat.pow_le_pow_right (by decide) (Nat.le_add_left b a))
  have h0 : BitVec.ofNat (a + b) a &&& BitVec.ofNat (a + b) b = 0#(a + b) := by rw [← BitVec.ofNat_and, h]
  have := BitVec.toNat_add_of_and_eq_zero h0
  rw [BitVec.add_eq_or_of_and_eq_zero _ _ h0, BitVec.toNat_or, BitVec.toNat_ofNat, BitVec.toNat_ofNat,
    Nat.mod_eq_of_lt ha, Nat.mod_eq_of_lt hb] at this
  exact this

/-! ### the word of a pattern as an OR: constant bits, and one term per run of field bits -/

def runTerm (fields : List (Nat × Nat)) (r : Run) : Nat :=
  ((fieldVal fields r.letter >>> r.src) % 2 ^ r.len) <<< r.dst
def runMask (r : Run) : Nat := (2 ^ r.len - 1) <<< r.dst

def fieldsVal (fields : List (Nat × Nat)) : List Run → Nat
  | [] => 0
  | r :: rs => runTerm fields r + fieldsVal fields rs

def runsOr (fields : List (Nat × Nat)) : List Run → Nat
  | [] => 0
  | r :: rs => runTerm fields r ||| runsOr fields rs

def clearOf (m : Nat) (rs : List Run) : Bool := rs.all fun r => m &&& runMask r == 0

def runsApart : List Run → Bool
  | [] => true
  | r :: rs => clearOf (runMask r) rs && runsApart rs

def patOk (p : List Nat) : Bool := clearOf (patConst p) (compile p) && runsApart (compile p)

theorem word_eq (p : List Nat) (fields : List (Nat × Nat)) :
    word p fields = patConst p + fieldsVal fields (compile p) := by
  unfold word
  generalize compile p = rs
  generalize patConst p = c
  induction rs generalizing c with
  | nil => rfl
  | cons r rs ih =>
    rw [List.foldl_cons, ih, fieldsVal, runTerm, Nat.shiftRight_eq_div_pow, Nat.shiftLeft_eq, Nat.add_assoc]

theorem runTerm_mask (fields : List (Nat × Nat)) (r : Run) : runTerm fields r &&& runMask r = runTerm fields r := by
  rw [runTerm, runMask, ← Nat.shiftLeft_and_distrib, Nat.and_two_pow_sub_one_eq_mod, Nat.mod_mod]

theorem and_runs {x m : Nat} (hx : x &&& m = x) (fields : List (Nat × Nat)) :
    ∀ {rs : List Run}, clearOf m rs = true → x &&& runsOr fields rs = 0
  | [], _ => Nat.and_zero x
  | r :: rs, h => by
    simp only [clearOf, List.all_cons, Bool.and_eq_true, beq_iff_eq] at h
    rw [runsOr, Nat.and_or_distrib_left, and_runs hx fields h.2, Nat.or_zero, ← hx, ← runTerm_mask, Nat.and_assoc,
      ← Nat.and_assoc m, Nat.and_comm m, Nat.and_assoc _ m, h.1, Nat.and_zero, Nat.and_zero]

theorem sum_runs (fields : List (Nat × Nat)) :
    ∀ {rs : List Run}, runsApart rs = true → fieldsVal fields rs = runsOr fields rs
  | [], _ => rfl
  | r :: rs, h => by
    simp only [runsApart, Bool.and_eq_true] at h
    rw [fieldsVal, runsOr, sum_runs fields h.2, or_eq_add (and_runs (runTerm_mask fields r) fields h.1)]

theorem word_or {p : List Nat} (hp : patOk p = true) (fields : List (Nat × Nat)) :
    word p fields = patConst p ||| runsOr fields (compile p) := by
  simp only [patOk, Bool.and_eq_true] at hp
  rw [word_eq, sum_runs fields hp.2, or_eq_add (and_runs (Nat.and_self _) fields hp.1)]

theorem word_or2 {p : List Nat} (hp : patOk p = true) {c d : Nat} (hcd : c ≠ d) (x y : Nat) :
    word p [(c, x), (d, y)] = word p [(c, x)] ||| word p [(d, y)] := by
  have h : ∀ rs, runsOr [(c, x), (d, y)] rs = runsOr [(c, x)] rs ||| runsOr [(d, y)] rs := by
    intro rs
    induction rs with
    | nil => exact (Nat.or_self 0).symm
    | cons r rs ih =>
      have : runTerm [(c, x), (d, y)] r = runTerm [(c, x)] r ||| runTerm [(d, y)] r := by
        unfold runTerm fieldVal fieldVal fieldVal
        by_cases h1 : c = r.letter
        · simp [h1, show ¬ d = r.letter from fun h => hcd (h1.trans h.symm)]
        · by_cases h2 : d = r.letter <;> simp [h1, h2]
      rw [runsOr, runsOr, runsOr, ih, this]; ac_rfl
  rw [word_or hp, word_or hp, word_or hp, h]; ac_rfl

def pack2Ok (p : List Nat) (c d : Nat) (f : Nat → Nat → Nat) (u v : Nat → Nat) (a b : Nat) : Bool :=
  patOk p && c != d && allIn (fun x => f x 0 == word p [(c, u x)]) a 0 &&
    allIn (fun y => f 0 y == word p [(d, v y)]) b 0

theorem pack2 {p : List Nat} {c d : Nat} {f : Nat → Nat → Nat} {u v : Nat → Nat} (a b : Nat)
    (h : pack2Ok p c d f u v a b = true)
    -- the packing is an OR of pieces of one operand each: by default, seen by unfolding it
    (hf : ∀ x y, f x y = f x 0 ||| f 0 y := by
      intro x y
      simp [packRR, packImm, packAdiw, packOne, packMuls, packMulf, packMovw, packLds16, packDisp, packIo]
      ac_rfl) :
    ∀ x y, x < 2 ^ a → y < 2 ^ b → f x y = word p [(c, u x), (d, v y)] := by
  simp only [pack2Ok, Bool.and_eq_true, bne_iff_ne] at h
  intro x y hx hy
  have h1 := allIn_spec _ a 0 h.1.2 x hx
  have h2 := allIn_spec _ b 0 h.2 y hy
  simp only [Nat.zero_add, beq_iff_eq] at h1 h2
  rw [hf, h1, h2, word_or2 h.1.1.1 h.1.1.2]

theorem sing2 {f g : Nat → Nat → Nat} {P Q : Nat → Prop} (h : ∀ x y, P x → Q y → f x y = g x y) :
    ∀ x y, P x → Q y → [f x y] = [g x y] :=
  fun x y hx hy => congrArg (fun w => [w]) (h x y hx hy)

theorem or_word {p q : List Nat} {fields : List (Nat × Nat)} {x : Nat}
    (hl : (compile p == compile q && patConst q == 0 && patOk p) = true) (hx : x = word q fields) :
    patConst p ||| x = word p fields := by
  simp only [Bool.and_eq_true, beq_iff_eq, patOk] at hl
  rw [word_or (by simp [patOk, hl.2]), hx, word_eq, hl.1.2, Nat.zero_add, ← hl.1.1, sum_runs fields hl.2.2]

/-! ### families that share a packing function and a field layout: one sweep, opcode added by `or_word` -/

theorem rr_sweep : ∀ d r, d < 2 ^ 5 → r < 2 ^ 5 →
    packRR 0 d r = word (pat!"0000 00rd dddd rrrr") [(fld!"d", d), (fld!"r", r)] :=
  pack2 5 5 (by decide +kernel)

theorem pack_rr (o : RROp) (d r : Nat) (hd : d < 32) (hr : r < 32) :
    packRR (patConst (rrPat o)) d r = word (rrPat o) [(fld!"d", d), (fld!"r", r)] := by
  rw [show packRR (patConst (rrPat o)) d r = patConst (rrPat o) ||| packRR 0 d r by
    simp only [packRR, Nat.or_assoc, Nat.zero_or]]
  exact or_word (by cases o <;> decide +kernel) (rr_sweep d r hd hr)

theorem imm_sweep : ∀ x k, x < 2 ^ 4 → k < 2 ^ 8 →
    packImm 0 (x + 16) k = word (pat!"0000 KKKK dddd KKKK") [(fld!"d", x), (fld!"K", k)] :=
  pack2 4 8 (by decide +kernel)

theorem pack_imm (o : ImmOp) (d k : Nat) (h16 : 16 ≤ d) (hd : d < 32) (hk : k < 256) :
    packImm (patConst (immPat o)) d k = word (immPat o) [(fld!"d", d - 16), (fld!"K", k)] := by
  have hs := imm_sweep (d - 16) k (by omega) hk
  rw [show d - 16 + 16 = d by omega] at hs
  rw [show packImm (patConst (immPat o)) d k = patConst (immPat o) ||| packImm 0 d k by
    simp only [packImm, Nat.or_assoc, Nat.zero_or]]
  exact or_word (by cases o <;> decide +kernel) hs

/-- relative jumps: the field is the low 12 bits as they are -/
theorem pack_rel (call : Bool) (f : Nat) (hf : f < 4096) :
    (if call then 0xd000 else 0xc000) ||| f =
      word (if call then pat!"1101 kkkk kkkk kkkk" else pat!"1100 kkkk kkkk kkkk") [(fld!"k", f)] := by
  have hx : f = word (pat!"0000 kkkk kkkk kkkk") [(fld!"k", f)] := by
    rw [word_eq]; exact ((Nat.zero_add _).trans (Nat.mod_eq_of_lt hf)).symm
  cases call
  · exact or_word (p := pat!"1100 kkkk kkkk kkkk") (by decide +kernel) hx
  · exact or_word (p := pat!"1101 kkkk kkkk kkkk") (by decide +kernel) hx

/-! ### the other families, mnemonic by mnemonic -/

theorem pack_io (out : Bool) : ∀ r a, r < 2 ^ 5 → a < 2 ^ 6 →
    packIo (if out then 0xb800 else 0xb000) r a =
      word (if out then pat!"1011 1AAd dddd AAAA" else pat!"1011 0AAd dddd AAAA") [(fld!"d", r), (fld!"A", a)] := by
  cases out <;> exact pack2 5 6 (by decide +kernel)

/-- the address field of the reduced-core lds/sts as the manual gives it: a5 a4 a6 a3 a2 a1 a0 -/
def k16 (a : Nat) : Nat := (a / 16 % 4) * 32 + (a / 64 % 2) * 16 + a % 16

theorem pack_lds16 (st : Bool) : ∀ x a, x < 2 ^ 4 → a < 2 ^ 8 →
    packLds16 (if st then 0xa800 else 0xa000) (x + 16) a =
      word (if st then pat!"1010 1kkk dddd kkkk" else pat!"1010 0kkk dddd kkkk") [(fld!"d", x), (fld!"k", k16 a)] := by
  cases st <;> exact pack2 4 8 (by decide +kernel)

theorem pack_one (o : OneOp) : ∀ d, d < 2 ^ 5 → packOne (patConst (onePat o)) d = word (onePat o) [(fld!"d", d)] := by
  cases o <;> exact forall_lt 5 (by decide +kernel)

theorem pack_ser : ∀ x, x < 2 ^ 4 → packSer 0xef0f (x + 16) = word (immPat .ldi) [(fld!"d", x), (fld!"K", 255)] :=
  forall_lt 4 (by decide +kernel)

theorem pack_adiw (sub : Bool) : ∀ x k, x < 2 ^ 2 → k < 2 ^ 6 →
    packAdiw (if sub then 0x9700 else 0x9600) (24 + 2 * x) k =
      word (if sub then pat!"1001 0111 KKdd KKKK" else pat!"1001 0110 KKdd KKKK") [(fld!"d", x), (fld!"K", k)] := by
  cases sub <;> exact pack2 2 6 (by decide +kernel)

theorem pack_muls : ∀ x y, x < 2 ^ 4 → y < 2 ^ 4 →
    packMuls 0x0200 (x + 16) (y + 16) = word (pat!"0000 0010 dddd rrrr") [(fld!"d", x), (fld!"r", y)] :=
  pack2 4 4 (by decide +kernel)

theorem pack_mulf (o : MulfOp) : ∀ x y, x < 2 ^ 3 → y < 2 ^ 3 →
    packMulf (patConst (mulfPat o)) (x + 16) (y + 16) = word (mulfPat o) [(fld!"d", x), (fld!"r", y)] := by
  cases o <;> exact pack2 3 3 (by decide +kernel)

theorem pack_movw : ∀ x y, x < 2 ^ 4 → y < 2 ^ 4 →
    packMovw 0x0100 (2 * x) (2 * y) = word (pat!"0000 0001 dddd rrrr") [(fld!"d", x), (fld!"r", y)] :=
  pack2 4 4 (by decide +kernel)

theorem pack_abs (call : Bool) : ∀ m, m < 2 ^ 9 →
    (if call then 0x940e else 0x940c) ||| (m &&& 0x1f0) ||| ((m / 8 % 2) &&& 1) =
      word (if call then pat!"1001 010k kkkk 111k" else pat!"1001 010k kkkk 110k") [(fld!"k", m / 8)] := by
  cases call <;> exact forall_lt 9 (by decide +kernel)

/-- branches: `num` carries the flag number and, in bit 10, "branch if cleared" -/
theorem pack_brb (clear : Bool) : ∀ s f, s < 2 ^ 3 → f < 2 ^ 7 →
    packBr 0xf000 s (if clear then 1024 else 0) f =
      word (if clear then pat!"1111 01kk kkkk ksss" else pat!"1111 00kk kkkk ksss") [(fld!"s", s), (fld!"k", f)] := by
  cases clear <;>
    exact pack2 3 7 (by decide +kernel) fun s f => by simp only [packBr, Nat.zero_shiftLeft, Nat.or_zero]; ac_rfl

theorem pack_lds32 (st : Bool) : ∀ d, d < 2 ^ 5 →
    packOne (if st then 0x9200 else 0x9000) d =
      word (if st then pat!"1001 001d dddd 0000" else pat!"1001 000d dddd 0000") [(fld!"d", d)] := by
  cases st <;> exact forall_lt 5 (by decide +kernel)

theorem pack_lpm (ext inc : Bool) : ∀ d, d < 2 ^ 5 →
    [packOne 0x9000 d ||| (if inc then 0b101 else 0b100) ||| (if ext then 0b10 else 0)] = encode (.lpm ext d inc) := by
  cases ext <;> cases inc <;> exact forall_lt 5 (by decide +kernel)

theorem pack_sbr (set : Bool) : ∀ r b, r < 2 ^ 5 → b < 2 ^ 3 →
    [packOne (if set then 0xfe00 else 0xfc00) r ||| b] = encode (.sbr set r b) := by
  cases set <;> exact sing2 (pack2 5 3 (by decide +kernel))

theorem pack_bt (load : Bool) : ∀ r b, r < 2 ^ 5 → b < 2 ^ 3 →
    [packOne (if load then 0xf800 else 0xfa00) r ||| b] = encode (.bt load r b) := by
  cases load <;> exact sing2 (pack2 5 3 (by decide +kernel))

theorem pack_iobit (o : IoBitOp) : ∀ a b, a < 2 ^ 5 → b < 2 ^ 3 →
    patConst (iobPat o) ||| (a <<< 3) ||| b = word (iobPat o) [(fld!"A", a), (fld!"b", b)] := by
  cases o <;> exact pack2 5 3 (by decide +kernel)

theorem pack_flagv (clear : Bool) : ∀ s, s < 2 ^ 3 →
    (if clear then 0x9488 else 0x9408) ||| (s <<< 4) =
      word (if clear then pat!"1001 0100 1sss 1000" else pat!"1001 0100 0sss 1000") [(fld!"s", s)] := by
  cases clear <;> exact forall_lt 3 (by decide +kernel)

/-! ### ld / st: the nine pointer forms, and Y/Z with displacement (`st`: bit 9, Y: bit 3) -/

/-- what the index operand of a load (`st = false`) or store denotes: the spec's two views,
    displacement form first -/
def idxSpec (st : Bool) (r : Nat) (i : AIndex) : Option (List Nat) :=
  match dispMode i with
  | some (z, q) => some (encode (if st then .std z q r else .ldd r z q))
  | none => (ptrMode i).map fun m => encode (if st then .stp m r else .ldp r m)

theorem pack_ptr (st : Bool) (i : AIndex) (hi : ∀ p q, i ≠ .disp p q) : ∀ r, r < 2 ^ 5 →
    (indexBits i).map (fun b => [packOne (if st then 0x8200 else 0x8000) r ||| b]) = idxSpec st r i := by
  cases st <;> rcases i with p | p | p | ⟨p, q⟩ <;>
    first | exact absurd rfl (hi p q) | (cases p <;> exact forall_lt 5 (by decide +kernel))

theorem pack_disp (st z : Bool) : ∀ r q, r < 2 ^ 5 → q < 2 ^ 6 →
    [packOne (if st then 0x8200 else 0x8000) r ||| ((if z then 0 else 8) ||| packDisp q)] =
      encode (if st then .std z q r else .ldd r z q) := by
  cases st <;> cases z <;> exact sing2 (pack2 5 6 (by decide +kernel))

end Avra.Lemmas
