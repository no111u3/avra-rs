/-
  The model's 64-bit operations (through `BitVec 64`, mirroring Rust's i64 operators) against the
  spec's textbook two's-complement definitions.
-/
import Avra.Model.Eval
import Avra.Spec.Eval
namespace Avra.Lemmas
open Avra.Model Avra.Spec

theorem inI64_iff (v : Int) : inI64 v = true ↔ (-9223372036854775808 ≤ v ∧ v ≤ 9223372036854775807) := by
  unfold inI64 i64Min i64Max; simp

theorem fits_eq_inI64 (v : Int) : fits v = inI64 v := by
  rw [Bool.eq_iff_iff, inI64_iff]
  unfold fits two63
  simp only [Bool.and_eq_true, decide_eq_true_eq]
  omega

theorem bv_toNat (a : Int) : (bv a).toNat = u64 a := by
  unfold bv u64 two64
  rw [BitVec.toNat_ofInt]

theorem s64_range (n : Nat) (h : n < 18446744073709551616) : inI64 (s64 n) = true := by
  rw [inI64_iff]; unfold s64 two64
  omega

theorem u64_lt (a : Int) : u64 a < 18446744073709551616 := by
  unfold u64 two64; omega

theorem toInt_s64 (x : BitVec 64) : x.toInt = s64 x.toNat := by
  rw [BitVec.toInt_eq_toNat_bmod, Int.bmod_def]
  unfold s64 two64
  omega

theorem i64And_spec (a b : Int) : i64And a b = s64 (u64 a &&& u64 b) := by
  rw [i64And, toInt_s64, BitVec.toNat_and, bv_toNat, bv_toNat]

theorem i64Or_spec (a b : Int) : i64Or a b = s64 (u64 a ||| u64 b) := by
  rw [i64Or, toInt_s64, BitVec.toNat_or, bv_toNat, bv_toNat]

theorem i64Xor_spec (a b : Int) : i64Xor a b = s64 (u64 a ^^^ u64 b) := by
  rw [i64Xor, toInt_s64, BitVec.toNat_xor, bv_toNat, bv_toNat]

theorem i64Not_spec (a : Int) (h : inI64 a = true) : i64Not a = -a - 1 := by
  rw [inI64_iff] at h
  rw [i64Not, toInt_s64, BitVec.toNat_not, bv_toNat]
  unfold s64 u64 two64
  omega

theorem i64Shl_spec (a : Int) (n : Nat) : i64Shl a n = s64 (u64 a * 2 ^ n % two64) := by
  rw [i64Shl, toInt_s64, BitVec.toNat_shiftLeft, bv_toNat, Nat.shiftLeft_eq]; rfl

theorem i64Shr_spec (a : Int) (n : Nat) (h : inI64 a = true) : i64Shr a n = a / 2 ^ n := by
  rw [inI64_iff] at h
  unfold i64Shr bv
  rw [BitVec.toInt_sshiftRight, BitVec.toInt_ofInt_eq_self (by decide) (by simp; omega) (by simp; omega),
    Int.shiftRight_eq_div_pow]
  norm_cast

theorem shr_range (a : Int) (n : Nat) (h : inI64 a = true) : inI64 (a / 2 ^ n) = true := by
  rw [inI64_iff] at *
  have hd : (0 : Int) < 2 ^ n := Int.pow_pos (by decide)
  generalize (2 : Int) ^ n = d at *
  constructor
  · rw [Int.le_ediv_iff_mul_le hd]; omega
  · have : a / d < 9223372036854775808 := by rw [Int.ediv_lt_iff_lt_mul hd]; omega
    omega

end Avra.Lemmas
