/-
  The text level of the Intel HEX round trip: hex digits, line splitting, and `records_text` — a
  file of well-formed records is read back as exactly these records.
-/
import Avra.Model.Hex
import Avra.Spec.HexReader
namespace Avra.Lemmas.Hex
open Avra.Model.Hex Avra.Spec.Hex

theorem hexVal_digit : ∀ n, n < 16 → hexVal (hexDigitU n) = some n := by decide

def noNl (t : Str) : Prop := ∀ c ∈ t, c ≠ '\r' ∧ c ≠ '\n'

theorem digit_noNl : ∀ n, n < 16 → hexDigitU n ≠ '\r' ∧ hexDigitU n ≠ '\n' := by decide

theorem hexBytes_hex (bs : List Nat) (h : bytesOk bs) : hexBytes (bs.flatMap hex2U) = some bs := by
  induction bs with
  | nil => rfl
  | cons b bs ih =>
    rw [bytesOk, List.forall_mem_cons] at h
    simp only [List.flatMap_cons, hex2U, List.cons_append, List.nil_append, hexBytes,
      hexVal_digit _ (Nat.mod_lt _ (by decide : 0 < 16)), ih h.2]
    congr 2
    omega

theorem go_append (t : Str) : ∀ (cur s : Str), noNl t →
    splitLines.go cur (t ++ s) = splitLines.go (t.reverse ++ cur) s := by
  induction t with
  | nil => intro cur s _; rfl
  | cons c t ih =>
    intro cur s h
    rw [noNl, List.forall_mem_cons] at h
    rw [List.cons_append, splitLines.go, if_neg (by simp [h.1]), ih _ s h.2, List.reverse_cons, List.append_assoc]
    rfl

theorem go_crlf (cur s : Str) (h : cur ≠ []) :
    splitLines.go cur ('\r' :: '\n' :: s) = cur.reverse :: splitLines.go [] s := by
  simp [splitLines.go, h]

theorem split_lines (ls : List Str) (h : ∀ l ∈ ls, l ≠ [] ∧ noNl l) :
    splitLines (ls.flatMap (fun l => l ++ ['\r', '\n']) ++ ['\r', '\n']) = ls := by
  unfold splitLines
  induction ls with
  | nil => simp [splitLines.go]
  | cons l ls ih =>
    rw [List.forall_mem_cons] at h
    rw [List.flatMap_cons, List.append_assoc, List.append_assoc, go_append l [] _ h.1.2, List.append_nil]
    exact (go_crlf _ _ (by simpa using h.1.1)).trans (by rw [List.reverse_reverse]; exact congrArg _ (ih h.2))

def toRec : Record → Rec
  | .data off v => .data off v
  | .eof => .eof
  | .extSeg a => .extSeg a
  | .extLin a => .extLin a

def recOk : Record → Prop
  | .data off v => off < 65536 ∧ v.length < 256 ∧ bytesOk v
  | .eof => True
  | .extSeg a => a < 65536
  | .extLin a => a < 65536

theorem foldl_add (l : List Nat) (a : Nat) : l.foldl (· + ·) a = a + l.foldl (· + ·) 0 :=
  List.foldl_assoc (op := (· + ·)) (a₂ := 0)

def decode (t addr : Nat) (payload : List Nat) : Option Rec :=
  match t with
  | 0 => some (.data addr payload)
  | 1 => if payload.length = 0 then some .eof else none
  | 2 => match payload with | [h, lo] => some (.extSeg (h * 256 + lo)) | _ => none
  | 4 => match payload with | [h, lo] => some (.extLin (h * 256 + lo)) | _ => none
  | _ => none

/-- a line as `format_record` writes it, for any type, address and payload: it passes the
    reader's length and checksum tests -/
theorem parseRecord_fields (t addr : Nat) (payload : List Nat) (ht : t < 256) (ha : addr < 65536)
    (hl : payload.length < 256) (hp : bytesOk payload) :
    parseRecord (':' :: ([payload.length % 256, addr / 256 % 256, addr % 256, t] ++ payload ++
      [checksum ([payload.length % 256, addr / 256 % 256, addr % 256, t] ++ payload)]).flatMap hex2U) =
      decode t addr payload := by
  generalize hc : checksum _ = c
  have hlen : payload.length % 256 = payload.length := Nat.mod_eq_of_lt hl
  have hb : bytesOk ([payload.length % 256, addr / 256 % 256, addr % 256, t] ++ payload ++ [c]) := by
    simp only [bytesOk, List.forall_mem_append, List.forall_mem_cons]
    have m := fun n => Nat.mod_lt n (show 0 < 256 by decide)
    exact ⟨⟨⟨m _, m _, m _, ht, nofun⟩, hp⟩, hc ▸ m _, nofun⟩
  have hsum : (payload.length + addr / 256 % 256 + addr % 256 + t + (payload ++ [c]).foldl (· + ·) 0) % 256 = 0 := by
    simp only [checksum, List.cons_append, List.nil_append, List.foldl_cons, List.foldl_append, List.foldl_nil, hlen] at hc ⊢
    rw [foldl_add] at hc
    omega
  rw [parseRecord, hexBytes_hex _ hb]
  simp only [List.cons_append, List.nil_append, List.length_append, List.length_cons, List.length_nil, hlen,
    ne_eq, not_true_eq_false, if_false, hsum, List.take_left', show addr / 256 % 256 * 256 + addr % 256 = addr by omega]
  rfl

theorem parse_recordText (r : Record) (h : recOk r) : parseRecord (recordText r) = some (toRec r) := by
  have ext : ∀ a, a < 65536 → bytesOk [a / 256 % 256, a % 256] ∧ a / 256 % 256 * 256 + a % 256 = a := fun a _ =>
    ⟨by simp only [bytesOk, List.forall_mem_cons]; exact ⟨by omega, by omega, nofun⟩, by omega⟩
  cases r with
  | data off v => exact parseRecord_fields 0 off v (by decide) h.1 h.2.1 h.2.2
  | eof => exact parseRecord_fields 1 0 [] (by decide) (by decide) (by decide) nofun
  | extSeg a =>
    exact (parseRecord_fields 2 0 [a / 256 % 256, a % 256] (by decide) (by decide) (by decide : 2 < 256) (ext a h).1).trans
      (congrArg (some ∘ Rec.extSeg) (ext a h).2)
  | extLin a =>
    exact (parseRecord_fields 4 0 [a / 256 % 256, a % 256] (by decide) (by decide) (by decide : 2 < 256) (ext a h).1).trans
      (congrArg (some ∘ Rec.extLin) (ext a h).2)

theorem recordText_ne (r : Record) : recordText r ≠ [] ∧ noNl (recordText r) := by
  refine ⟨by simp [recordText], fun c hc => ?_⟩
  simp only [recordText, List.mem_cons, List.mem_flatMap] at hc
  obtain rfl | ⟨b, _, hb⟩ := hc
  · decide
  · simp only [hex2U, List.mem_cons, List.mem_nil_iff, or_false] at hb
    rcases hb with rfl | rfl <;> exact digit_noNl _ (Nat.mod_lt _ (by decide))

theorem allSome_map {α β : Type} (f : α → Option β) (g : α → β) : ∀ l : List α, (∀ a ∈ l, f a = some (g a)) →
    allSome (l.map f) = some (l.map g)
  | [], _ => rfl
  | a :: l, h => by
    rw [List.forall_mem_cons] at h
    simp only [List.map_cons, h.1, allSome, allSome_map f g l h.2, Option.map_some]

theorem records_text (rs : List Record) (h : ∀ r ∈ rs, recOk r) :
    records (rs.flatMap (fun r => recordText r ++ ['\r', '\n']) ++ ['\r', '\n']) = some (rs.map toRec) := by
  unfold records
  rw [← List.flatMap_map (f := recordText) (g := fun l => l ++ ['\r', '\n']), split_lines, List.map_map, Function.comp_def]
  · exact allSome_map _ toRec rs fun r hr => parse_recordText r (h r hr)
  · exact List.forall_mem_map.2 fun r _ => recordText_ne r

end Avra.Lemmas.Hex
