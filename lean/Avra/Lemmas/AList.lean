/-
  The symbol tables are association lists read through `alookup` only.  Removing the entries of
  one key (`filter`) does not change what any other key finds and leaves nothing under that key;
  `ainsert` and `aremove` are this filter, with and without a new entry in front.
-/
import Avra.Basic
namespace Avra

theorem alookup_filter {α : Type} (k k' : Str) :
    ∀ m : List (Str × α), alookup k (m.filter fun p => p.1 ≠ k') = if k' = k then none else alookup k m
  | [] => by split <;> rfl
  | (pk, pv) :: rest => by
    rw [List.filter_cons, alookup]
    by_cases hp : pk = k'
    · rw [if_neg (by simpa using hp), alookup_filter k k' rest, hp]
      split <;> rfl
    · rw [if_pos (by simpa using hp), alookup, alookup_filter k k' rest]
      by_cases hk : pk = k
      · rw [if_pos hk, if_pos hk, if_neg (hk ▸ Ne.symm hp)]
      · rw [if_neg hk, if_neg hk]

theorem alookup_ainsert_same {α : Type} (k : Str) (v : α) (m : List (Str × α)) : alookup k (ainsert k v m) = some v := by
  simp [ainsert, alookup]

theorem alookup_ainsert_other {α : Type} (k k' : Str) (v : α) (m : List (Str × α)) (h : k' ≠ k) :
    alookup k (ainsert k' v m) = alookup k m := by
  simp only [ainsert, alookup, if_neg h]
  exact (alookup_filter k k' m).trans (if_neg h)

theorem alookup_aremove {α : Type} (k : Str) (m : List (Str × α)) : alookup k (aremove k m) = none :=
  (alookup_filter k k m).trans (if_pos rfl)

theorem ainsert_idem {α : Type} (k : Str) (v w : α) (m : List (Str × α)) :
    ainsert k v (ainsert k w m) = ainsert k v m := by
  simp [ainsert, List.filter_filter]

end Avra
