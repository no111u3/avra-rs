/-
  `info` / `infoGo` (the opcode table lookup) through its rows: what is found is a row of the
  table, every key of the table is found, the keys are every mnemonic on both cores, and the
  opcode of every row is the one the mnemonic's arm of `encodeR` builds on (`baseOf`).
-/
import Avra.Model.Encode
namespace Avra.Lemmas
open Avra.Model Avra.Isa

theorem info_std (avr8l : Bool) (op : Op) (h : ∀ n, op ≠ .custom n) :
    info avr8l op = infoGo op avr8l Gen.infoTable := by
  unfold info; split
  · exact absurd rfl (h _)
  · rfl

theorem infoGo_mem {op : Op} {b : Bool} {r : Nat × Nat} : ∀ {tbl : List (Op × Bool × Nat × Nat)},
    infoGo op b tbl = some r → (op, b, r) ∈ tbl
  | [], h => nomatch h
  | (o, a, l, c) :: rest, h => by
    unfold infoGo at h
    split at h
    · rename_i hm; cases h; rw [hm.1, hm.2]; exact List.mem_cons_self
    · exact List.mem_cons_of_mem _ (infoGo_mem h)

theorem infoGo_isSome {op : Op} {b : Bool} : ∀ {tbl : List (Op × Bool × Nat × Nat)},
    (op, b) ∈ tbl.map (fun r => (r.1, r.2.1)) → (infoGo op b tbl).isSome = true
  | [], h => nomatch h
  | (o, a, l, c) :: rest, h => by
    unfold infoGo
    split
    · rfl
    · rename_i hne
      rw [List.map_cons, List.mem_cons] at h
      rcases h with h | h
      · cases h; exact absurd ⟨rfl, rfl⟩ hne
      · exact infoGo_isSome h

/-- every mnemonic other than a macro call, in the order of `Gen.infoTable` -/
def stdOps : List Op := [
  .adc, .add, .adiw, .and, .andi, .asr, .bclr, .bld, .br .bc, .br .bs, .br .cc, .br .cs, .«break», .br .eq,
  .br .ge, .br .hc, .br .hs, .br .id, .br .ie, .br .lo, .br .lt, .br .mi, .br .ne, .br .pl, .br .sh,
  .br .tc, .br .ts, .br .vc, .br .vs, .bset, .bst, .call, .cbi, .cbr, .cl .c, .cl .h, .cl .i, .cl .n, .clr,
  .cl .s, .cl .t, .cl .v, .cl .z, .com, .cp, .cpc, .cpi, .cpse, .dec, .eicall, .eijmp, .elpm, .eor, .fmul,
  .fmuls, .fmulsu, .icall, .ijmp, .«in», .inc, .jmp, .ld, .ldd, .ldi, .lds, .lpm, .lsl, .lsr, .mov, .movw,
  .mul, .muls, .mulsu, .neg, .nop, .or, .ori, .out, .pop, .push, .rcall, .ret, .reti, .rjmp, .rol, .ror,
  .sbc, .sbci, .sbi, .sbic, .sbis, .sbiw, .sbr, .sbrc, .sbrs, .se .c, .se .h, .se .i, .se .n, .ser, .se .s,
  .se .t, .se .v, .se .z, .sleep, .spm, .st, .std, .sts, .sub, .subi, .swap, .tst, .wdr]

theorem mem_stdOps (op : Op) (h : ∀ n, op ≠ .custom n) : op ∈ stdOps := by
  cases op with
  | br b => cases b <;> decide +kernel
  | se f => cases f <;> decide +kernel
  | cl f => cases f <;> decide +kernel
  | custom n => exact absurd rfl (h n)
  | _ => decide +kernel

/-- Gen obligation: the key columns of the opcode table are the two rows of every mnemonic,
    the reduced core second (a linear comparison, since `stdOps` is in the table's order) -/
theorem infoTable_keys :
    Gen.infoTable.map (fun r => (r.1, r.2.1)) = stdOps.flatMap fun o => [(o, false), (o, true)] := by
  decide +kernel

theorem info_isSome (avr8l : Bool) (op : Op) : (info avr8l op).isSome = true := by
  by_cases h : ∃ n, op = .custom n
  · obtain ⟨n, rfl⟩ := h; rfl
  · have hstd : ∀ n, op ≠ .custom n := fun n e => h ⟨n, e⟩
    rw [info_std avr8l op hstd]
    apply infoGo_isSome
    rw [infoTable_keys, List.mem_flatMap]
    exact ⟨op, mem_stdOps op hstd, by cases avr8l <;> simp⟩

theorem info_ne_none (avr8l : Bool) (op : Op) : info avr8l op ≠ none := by
  intro h; have := info_isSome avr8l op; rw [h] at this; cases this

/-- the opcode the arm of `encodeR` for a mnemonic builds on: the constant bits of the manual's
    pattern, or of what the members of the arm have in common (the branches: 1111 0…; se*/cl*:
    bset/bclr; lpm/elpm: the register forms; ser: ldi with K = 255) -/
def baseOf (avr8l : Bool) (op : Op) : Nat :=
  match op with
  | .tst => patConst (rrPat .and) | .clr => patConst (rrPat .eor)
  | .lsl => patConst (rrPat .add) | .rol => patConst (rrPat .adc)
  | .subi => patConst (immPat .subi) | .sbci => patConst (immPat .sbci) | .cpi => patConst (immPat .cpi)
  | .andi | .cbr => patConst (immPat .andi) | .ori | .sbr => patConst (immPat .ori)
  | .ldi => patConst (immPat .ldi) | .ser => 0xef0f
  | .adiw => 0x9600 | .sbiw => 0x9700 | .muls => 0x0200 | .movw => 0x0100
  | .mulsu => patConst (mulfPat .mulsu) | .fmul => patConst (mulfPat .fmul)
  | .fmuls => patConst (mulfPat .fmuls) | .fmulsu => patConst (mulfPat .fmulsu)
  | .rjmp => 0xc000 | .rcall => 0xd000 | .jmp => 0x940c | .call => 0x940e | .br _ => 0xf000
  | .lds => if avr8l then 0xa000 else 0x9000 | .sts => if avr8l then 0xa800 else 0x9200
  | .ld | .ldd => 0x8000 | .st | .std => 0x8200 | .lpm | .elpm => 0x9000
  | .in => 0xb000 | .out => 0xb800
  | .sbrc => 0xfc00 | .sbrs => 0xfe00 | .bst => 0xfa00 | .bld => 0xf800
  | .sbi => patConst (iobPat .sbi) | .cbi => patConst (iobPat .cbi)
  | .sbis => patConst (iobPat .sbis) | .sbic => patConst (iobPat .sbic)
  | .bset | .se _ => 0x9408 | .bclr | .cl _ => 0x9488
  | _ =>
    match rrOp op, oneOp op, noargOp op with
    | some o, _, _ => patConst (rrPat o)
    | _, some o, _ => patConst (onePat o)
    | _, _, some o => patConst (noargPat o)
    | _, _, _ => 0

/-- Gen obligation: the opcode column of the table extracted from the code -/
theorem infoTable_base : (Gen.infoTable.all fun (op, b, _, c) => c == baseOf b op) = true := by
  decide +kernel

theorem info_base (avr8l : Bool) (op : Op) (h : ∀ n, op ≠ .custom n) :
    ∃ len, info avr8l op = some (len, baseOf avr8l op) := by
  cases hi : info avr8l op with
  | none => exact absurd hi (info_ne_none avr8l op)
  | some r =>
    rw [info_std avr8l op h] at hi
    have hc : r.2 = baseOf avr8l op := by simpa using List.all_eq_true.1 infoTable_base _ (infoGo_mem hi)
    exact ⟨r.1, by rw [← hc]⟩

end Avra.Lemmas
