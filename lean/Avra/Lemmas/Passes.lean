/-
  Pass 1 and pass 2 as folds: what each does with ONE item (`pass1Step`, `pass2Step`) and the
  equations that say the item loops of Build.lean are these steps, one after the other
  (`pass1Items_cons`, `pass2Items_cons`).  What holds for every item is proved about a step
  (`pass1Step_sat`, `pass2Step_sat`: a step fails with an error naming its line or has done what
  `Booked`, `Emitted` say); what is about lists (cutting a list in two: Props/C02b; where
  errors come from: Lemmas/Outcome; bounds: Props/C12) follows from the two equations without
  looking at the kinds of items again.
-/
import Avra.Lemmas.BuildEq
import Avra.Lemmas.Info
import Avra.Lemmas.Resolve
namespace Avra.Props.C03b
open Avra.Model

/-- the context pass 2 evaluates an item in: `pc` is the item's own address -/
def atPc (ctx : Ctx) (cur : Nat) : Ctx :=
  { ctx with special := ainsert "pc".toList (.const (cur : Int)) ctx.special }

end Avra.Props.C03b

namespace Avra.Model
open Avra.Props.C03b Avra.Lemmas

variable {Q : Fail → Prop}

theorem dataBytes_cons_ok {c : Ctx} {dt : DataDefine} {o : Operand} {more : List Operand} {bs : List Nat} :
    dataBytes c dt (o :: more) = .ok bs ↔
      ∃ b bm, operandBytes c dt o = .ok b ∧ dataBytes c dt more = .ok bm ∧ bs = b ++ bm := by
  simp only [dataBytes]
  cases operandBytes c dt o <;> cases dataBytes c dt more <;> simp [eq_comm]

theorem dataBytes_induction {c : Ctx} {dt : DataDefine} (P : List Operand → List Nat → Prop) (nil : P [] [])
    (cons : ∀ o more b bm, operandBytes c dt o = .ok b → dataBytes c dt more = .ok bm → P more bm → P (o :: more) (b ++ bm)) :
    ∀ ops bs, dataBytes c dt ops = .ok bs → P ops bs := by
  intro ops
  induction ops with
  | nil => intro bs h; cases h; exact nil
  | cons o more ih =>
    intro bs h
    obtain ⟨b, bm, ho, hm, rfl⟩ := dataBytes_cons_ok.1 h
    exact cons o more b bm ho hm (ih bm hm)

theorem operandBytes_ne_oof (c : Ctx) (dt : DataDefine) (o : Operand) : operandBytes c dt o ≠ .oof := by
  cases o with
  | s s => cases dt <;> nofun
  | e e =>
    simp only [operandBytes]
    cases he : eval c e with
    | oof => exact absurd he (eval_ne_oof c e)
    | err k => nofun
    | ok v => cases dt <;> simp only <;> (try split) <;> nofun

theorem dataBytes_ne_oof (c : Ctx) (dt : DataDefine) : ∀ (ops : List Operand), dataBytes c dt ops ≠ .oof
  | [] => nofun
  | o :: more => by
    simp only [dataBytes]
    cases h1 : operandBytes c dt o with
    | oof => exact absurd h1 (operandBytes_ne_oof c dt o)
    | err => nofun
    | ok b =>
      cases h2 : dataBytes c dt more with
      | oof => exact absurd h2 (dataBytes_ne_oof c dt more)
      | err => nofun
      | ok bs => nofun

def prependItems (xs : List (Nat × Item)) : Out (Nat × List (Nat × Item) × Ctx) → Out (Nat × List (Nat × Item) × Ctx)
  | .ok (e, its, c) => .ok (e, xs ++ its, c)
  | r => r

theorem prependItems_nil (r : Out (Nat × List (Nat × Item) × Ctx)) : prependItems [] r = r := by
  cases r <;> rfl

theorem prependItems_eq_ok {xs : List (Nat × Item)} {r : Out (Nat × List (Nat × Item) × Ctx)} {e : Nat}
    {its : List (Nat × Item)} {c : Ctx} (h : prependItems xs r = .ok (e, its, c)) :
    ∃ its', its = xs ++ its' ∧ r = .ok (e, its', c) := by
  cases r with
  | ok v => obtain ⟨e', its', c'⟩ := v; cases h; exact ⟨its', rfl, rfl⟩
  | error e => cases h
  | panic s => cases h
  | oof => cases h

theorem consItem_eq (x : Nat × Item) (r : Out (Nat × List (Nat × Item) × Ctx)) : consItem x r = prependItems [x] r := by
  cases r <;> rfl

/-- pass 1 on one item at offset `cur`: the size booked, what is handed to pass 2, the context
    (no pattern overlaps another — unlike in `pass1Items` — so that `simp only [pass1Step]` works) -/
def pass1Step (t : SegT) (ctx : Ctx) (cur ln : Nat) (it : Item) : Out (Nat × List (Nat × Item) × Ctx) :=
  match it with
  | .label name =>
    if ctx.exist name then lineErr ln "label-twice"
    else .ok (0, [], { ctx with labels := ainsert name (t, cur % 4294967296) ctx.labels })
  | .instruction op _ =>
    match t with
    | .code =>
      match info ctx.device.isAvr8l op with
      | some (len, _) => .ok (len, [(ln, it)], ctx)
      | none => .panic "no info row"
    | _ => lineErr ln "instruction-in-segment"
  | .set _ _ | .def _ _ | .undef _ => .ok (0, [(ln, it)], ctx)
  | .data dt ops =>
    let wide (sz : Nat) : Out (Nat × List (Nat × Item) × Ctx) :=
      match t with
      | .code => .ok (ops.length * (sz / 2), [(ln, it)], ctx)
      | .eeprom => .ok (ops.length * sz, [(ln, it)], ctx)
      | .data => lineErr ln "dw-in-dseg"
    match dt with
    | .db =>
      match t with
      | .code =>
        let ops' := if actualLen ops % 2 = 1 then ops ++ [.e (.const 0)] else ops
        .ok (actualLen ops' / 2, [(ln, .data .db ops')], ctx)
      | .eeprom => .ok (actualLen ops, [(ln, it)], ctx)
      | .data => lineErr ln "db-in-dseg"
    | .dw => wide 2
    | .dd => wide 4
    | .dq => wide 8
  | .reserveData n =>
    match t with
    | .code => lineErr ln "byte-in-cseg"
    | _ =>
      if n < 0 ∨ n > 4294967295 then lineErr ln "byte-range"
      else .ok (n.toNat, if t = .eeprom then [(ln, it)] else [], ctx)
  | .pragma _ => .ok (0, [], ctx)

def Booked (t : SegT) (ctx : Ctx) (cur ln : Nat) (r : Nat × List (Nat × Item) × Ctx) : Prop :=
  (r.2.1 = [] ∨ ∃ it', r.2.1 = [(ln, it')]) ∧
  (r.2.2 = ctx ∨ ∃ name, ¬ ctx.exist name ∧
    r.2.2 = { ctx with labels := ainsert name (t, cur % 4294967296) ctx.labels })

theorem pass1Step_sat (t : SegT) (ctx : Ctx) (cur ln : Nat) (it : Item) (hln : ∀ k, Q (.error ⟨some ln, k⟩)) :
    (pass1Step t ctx cur ln it).Sat (Booked t ctx cur ln) Q := by
  cases it with
  | data dt ops => cases dt <;> cases t <;> first | exact ⟨.inr ⟨_, rfl⟩, .inl rfl⟩ | exact hln _
  | label name => simp only [pass1Step]; split <;> first | exact hln _ | exact ⟨.inl rfl, .inr ⟨name, ‹_›, rfl⟩⟩
  | _ =>
    simp only [pass1Step]
    repeat' split
    -- the leaves: one item handed on; none; an error of this line; the dead arm "no row in the table"
    all_goals first
      | exact ⟨.inr ⟨_, rfl⟩, .inl rfl⟩
      | exact ⟨.inl rfl, .inl rfl⟩
      | exact hln _
      | exact absurd ‹info _ _ = none› (info_ne_none _ _)

theorem pass1Step_ok {t : SegT} {ctx : Ctx} {cur ln : Nat} {it : Item} {r : Nat × List (Nat × Item) × Ctx}
    (h : pass1Step t ctx cur ln it = .ok r) : Booked t ctx cur ln r :=
  (pass1Step_sat (Q := fun _ => True) t ctx cur ln it fun _ => trivial).ok h

theorem pass1Items_nil (t : SegT) (limit cur : Nat) (ctx : Ctx) :
    pass1Items t limit [] cur ctx = if cur > limit then noLineErr "overdue" else .ok (cur, [], ctx) := by
  unfold pass1Items; rfl

theorem pass1Items_cons (t : SegT) (limit ln : Nat) (it : Item) (rest : List (Nat × Item)) (cur : Nat) (ctx : Ctx) :
    pass1Items t limit ((ln, it) :: rest) cur ctx =
      if cur > limit then lineErr ln "overdue" else
        pass1Step t ctx cur ln it >>= fun r => prependItems r.2.1 (pass1Items t limit rest (cur + r.1) r.2.2) := by
  conv => lhs; unfold pass1Items
  split
  · rfl
  · cases it with
    | data dt ops => cases dt <;> cases t <;> simp [pass1Step, bind, lineErr, consItem_eq]
    | _ => simp only [pass1Step] <;> (repeat' split) <;> simp_all [bind, lineErr, consItem_eq, prependItems_nil]

theorem pass1Items_cons_ok {t : SegT} {limit ln : Nat} {it : Item} {rest : List (Nat × Item)} {cur : Nat} {ctx : Ctx}
    {e : Nat} {its : List (Nat × Item)} {ctx' : Ctx} (h : pass1Items t limit ((ln, it) :: rest) cur ctx = .ok (e, its, ctx')) :
    ¬ cur > limit ∧ ∃ r its', pass1Step t ctx cur ln it = .ok r ∧ its = r.2.1 ++ its' ∧
      pass1Items t limit rest (cur + r.1) r.2.2 = .ok (e, its', ctx') := by
  rw [pass1Items_cons] at h
  split at h
  · cases h
  · obtain ⟨r, hs, hv⟩ := Out.bind_eq_ok h
    obtain ⟨its', hi, hr⟩ := prependItems_eq_ok hv
    exact ⟨‹_›, r, its', hs, hi, hr⟩

theorem pass1Items_induction {t : SegT} {limit : Nat}
    {P : List (Nat × Item) → Nat → Ctx → Nat → List (Nat × Item) → Ctx → Prop}
    (nil : ∀ cur ctx, cur ≤ limit → P [] cur ctx cur [] ctx)
    (cons : ∀ ln it rest cur ctx r e its ctx', pass1Step t ctx cur ln it = .ok r →
      P rest (cur + r.1) r.2.2 e its ctx' → P ((ln, it) :: rest) cur ctx e (r.2.1 ++ its) ctx') :
    ∀ items cur ctx e its ctx', pass1Items t limit items cur ctx = .ok (e, its, ctx') → P items cur ctx e its ctx' := by
  intro items
  induction items with
  | nil =>
    intro cur ctx e its ctx' h
    rw [pass1Items_nil] at h
    split at h <;> cases h
    exact nil _ _ (by omega)
  | cons x rest ih =>
    intro cur ctx e its ctx' h
    obtain ⟨-, r, its', hs, rfl, hr⟩ := pass1Items_cons_ok h
    exact cons _ _ _ _ _ _ _ _ _ hs (ih _ _ _ _ _ hr)

/-- pass 2 on one item at address `cur` (`ctx` already has `pc`): how far the address moves, the
    bytes, the context -/
def pass2Step (t : SegT) (ctx : Ctx) (cur ln : Nat) : Item → Out (Nat × List Nat × Ctx)
  | .instruction op args =>
    if checkInstruction ctx.device op args then
      match process ctx op args cur with
      | .ok bytes => .ok (bytes.length / 2, bytes, ctx)
      | .err => lineErr ln "instruction"
      | .oof => .oof
    else lineErr ln "not-allowed-for-device"
  | .data dt ops =>
    match dataBytes ctx dt ops with
    | .ok bytes => .ok ((if t = .code then bytes.length / 2 else bytes.length), bytes, ctx)
    | .err => lineErr ln "data"
    | .oof => .oof
  | .reserveData n => .ok (n.toNat, List.replicate n.toNat 0, ctx)
  | .def alias e =>
    match e with
    | .ident reg =>
      match regOfName (lower reg) with
      | none => lineErr ln "not-a-register"
      | some r =>
        if ctx.exist alias then lineErr ln "def-twice"
        else if ctx.exist (lower alias) then .ok (0, [], ctx)
        else .ok (0, [], { ctx with defs := ainsert (lower alias) r ctx.defs })
    | .const _ | .func _ _ | .bin _ _ _ | .un _ _ => lineErr ln "def-not-register"
  | .undef alias =>
    if (alookup (lower alias) ctx.defs).isSome
    then .ok (0, [], { ctx with defs := aremove (lower alias) ctx.defs })
    else lineErr ln "undef-unknown"
  | .set name e =>
    match eval ctx e with
    | .err _ => lineErr ln "set-expr"
    | .oof => .oof
    | .ok v =>
      if ctx.exist (lower name) then
        if (alookup (lower name) ctx.sets).isSome
        then .ok (0, [], { ctx with sets := ainsert (lower name) (.const v) ctx.sets })
        else lineErr ln "set-twice"
      else .ok (0, [], { ctx with sets := ainsert (lower name) (.const v) ctx.sets })
  | .label _ | .pragma _ => .ok (0, [], ctx)

theorem pass2Items_cons (t : SegT) (ln : Nat) (it : Item) (rest : List (Nat × Item)) (cur : Nat) (acc : List Nat) (ctx : Ctx) :
    pass2Items t ((ln, it) :: rest) cur acc ctx =
      pass2Step t (atPc ctx cur) cur ln it >>= fun r => pass2Items t rest (cur + r.1) (acc ++ r.2.1) r.2.2 := by
  conv => lhs; unfold pass2Items
  cases it with
  | «def» alias e => cases e <;> simp only [pass2Step, atPc] <;> (repeat' split) <;> simp_all [bind, lineErr]
  | _ => simp only [pass2Step, atPc] <;> (repeat' split) <;> simp_all [bind, lineErr]

theorem pass2Items_instruction (t : SegT) (ln : Nat) (op : Op) (args : List IOp) (rest : List (Nat × Item))
    (cur : Nat) (acc : List Nat) (ctx : Ctx) :
    pass2Items t ((ln, .instruction op args) :: rest) cur acc ctx =
      if checkInstruction ctx.device op args then
        match process (atPc ctx cur) op args cur with
        | .ok bytes => pass2Items t rest (cur + bytes.length / 2) (acc ++ bytes) (atPc ctx cur)
        | .err => .error ⟨some ln, "instruction"⟩
        | .oof => .oof
      else .error ⟨some ln, "not-allowed-for-device"⟩ := by
  rw [pass2Items_cons]
  have hd : (atPc ctx cur).device = ctx.device := rfl
  simp only [pass2Step, hd]
  split
  · cases process (atPc ctx cur) op args cur <;> rfl
  · rfl

def Emitted (t : SegT) (c : Ctx) (cur : Nat) (it : Item) (r : Nat × List Nat × Ctx) : Prop :=
  r.2.2.device = c.device ∧
  match it with
  | .instruction op args => process c op args cur = .ok r.2.1 ∧ r.1 = r.2.1.length / 2
  | .data dt ops => dataBytes c dt ops = .ok r.2.1 ∧ r.1 = if t = .code then r.2.1.length / 2 else r.2.1.length
  | .reserveData n => r.1 = n.toNat ∧ r.2.1 = List.replicate n.toNat 0
  | _ => r.1 = 0 ∧ r.2.1 = []

theorem pass2Step_sat (t : SegT) (c : Ctx) (cur ln : Nat) (it : Item) (hln : ∀ k, Q (.error ⟨some ln, k⟩)) :
    (pass2Step t c cur ln it).Sat (Emitted t c cur it) Q := by
  cases it with
  | instruction op args =>
    simp only [pass2Step]
    repeat' split
    all_goals first | exact hln _ | exact ⟨rfl, ‹_›, rfl⟩ | exact absurd ‹_› (process_ne_oof _ _ _ _)
  | data dt ops =>
    simp only [pass2Step]
    split
    all_goals first | exact hln _ | exact ⟨rfl, ‹_›, rfl⟩ | exact absurd ‹_› (dataBytes_ne_oof _ _ _)
  | «def» a e => cases e <;> simp only [pass2Step] <;> (repeat' split) <;> first | exact hln _ | exact ⟨rfl, rfl, rfl⟩
  | _ =>
    simp only [pass2Step] <;> (repeat' split) <;>
      first | exact hln _ | exact ⟨rfl, rfl, rfl⟩ | exact absurd ‹_› (eval_ne_oof _ _)

theorem pass2Step_ok {t : SegT} {c : Ctx} {cur ln : Nat} {it : Item} {r : Nat × List Nat × Ctx}
    (h : pass2Step t c cur ln it = .ok r) : Emitted t c cur it r :=
  (pass2Step_sat (Q := fun _ => True) t c cur ln it fun _ => trivial).ok h

end Avra.Model
