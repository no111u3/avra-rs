/-
  Lifting kernel-evaluated `allIn` checks to universally quantified statements.
-/
import Avra.Basic
namespace Avra.Lemmas

theorem forall_lt {P : Nat → Prop} [DecidablePred P] (b : Nat)
    (h : allIn (fun x => decide (P x)) b 0 = true) : ∀ x, x < 2 ^ b → P x := by
  intro x hx
  have := allIn_spec _ b 0 h x hx
  simpa using this

end Avra.Lemmas
