/-
  The skippers of the line loop.  What `skipCond` does with a line depends on its kind only
  (`kindOf`, `skipCond_cons`).  The skippers hand on a SUFFIX of the lines they were given, and which
  suffix depends only on what the lines passed over parse to (`skipCond_drop`, `skipMacro_drop`,
  `skipStep_drop`).  The statement carries a text `ext` that follows on one side, so that it also
  says that a line found is found all the same when more text follows (`skipStep_local`).
-/
import Avra.Model.Parse
import Avra.Spec.Cond
namespace Avra.Props.C14
open Avra.Model

inductive SameDocs : List (Nat × Str) → List (Nat × Str) → Prop
  | nil : SameDocs [] []
  | cons (n : Nat) (l l' : Str) (ls ls' : List (Nat × Str)) :
      parseLine l = parseLine l' → SameDocs ls ls' → SameDocs ((n, l) :: ls) ((n, l') :: ls')

theorem sameDocs_refl : ∀ ls : List (Nat × Str), SameDocs ls ls
  | [] => .nil
  | (n, l) :: rest => .cons n l l rest rest rfl (sameDocs_refl rest)

theorem sameDocs_length : ∀ {ls ls' : List (Nat × Str)}, SameDocs ls ls' → ls.length = ls'.length := by
  intro ls ls' h
  induction h with
  | nil => rfl
  | cons n l l' ls ls' _ _ ih => simp [ih]

end Avra.Props.C14

namespace Avra.Lemmas.Skip

/-- the answer of a skipper that stops in front of `ls`.  A skipper answers with the line the loop
    goes on with, whether that line is an `.elif` delivered a second time (`re`), the lines
    behind it, and whether a parse ran out of fuel -/
def handOn (re : Bool) : List (Nat × Str) → Option (Nat × Str) × Bool × List (Nat × Str) × Bool
  | [] => (none, false, [], false)
  | x :: rest => (some x, re, rest, false)

end Avra.Lemmas.Skip

namespace Avra.Lemmas.Cond
open Avra.Model Avra.Spec Avra.Lemmas.Skip

inductive LK | open | elif | els | endif | other
  deriving DecidableEq, Repr

/-- classification by what `document::line` makes of the text (a line that does not parse, or
    is not a directive line, is `other`) -/
def kindOf (l : Line) : LK :=
  match parseLine l.2 with
  | (some (.directiveLine _ d _), false) =>
    if isCondOpen d then .open
    else if d = .elif then .elif
    else if d = .else then .els
    else if d = .endif then .endif
    else .other
  | _ => .other

/-- the model's parser does not run out of fuel on the line.  It never does
    (`Lemmas.Fuel.line_no_oof`, `C16.fuel_adequate`); the well-formedness predicates of Lemmas/Cond carry
    the condition, so that the files about conditional assembly do not rest on the fuel bound -/
def noOof (l : Line) : Prop := (parseLine l.2).2 = false

theorem skipCond_cons {all : Bool} {depth : Nat} {l : Line} {rest : List Line} (ho : noOof l) :
    skipCond all depth (l :: rest) =
      match kindOf l with
      | .open => skipCond all (depth + 1) rest
      | .other => skipCond all depth rest
      | .endif => if depth = 0 then handOn false rest else skipCond all (depth - 1) rest
      | .elif => if depth = 0 ∧ all = false then (some l, true, rest, false) else skipCond all depth rest
      | .els => if depth = 0 ∧ all = false then handOn false rest else skipCond all depth rest := by
  obtain ⟨n, t⟩ := l
  unfold noOof at ho
  unfold kindOf
  simp only [skipCond]
  cases hp : parseLine t with
  | mk doc o =>
    rw [hp] at ho
    subst ho
    cases doc with
    | none => rfl
    | some d =>
      cases d with
      | directiveLine lab dir ops =>
        by_cases h1 : isCondOpen dir = true
        · simp [h1]
        · by_cases h2 : dir = .elif
          · subst h2; cases all <;> cases depth <;> rfl
          · by_cases h3 : dir = .else
            · subst h3; cases all <;> cases depth <;> rfl
            · by_cases h4 : dir = .endif
              · subst h4; cases all <;> cases depth <;> rfl
              · have : isCondStop dir = false := by simp [isCondStop, h2, h3, h4]
                simp [h1, h2, h3, h4, this]
      | emptyLine => rfl
      | label n => rfl
      | codeLine a b c => rfl

end Avra.Lemmas.Cond

namespace Avra.Lemmas.Skip
open Avra.Model Avra.Props.C14 Avra.Lemmas.Cond

/-- the answers `A`, `B` of a skipper over `ls` and over `ls' ++ ext`: out of fuel on both sides;
    a line found inside `ls`, as many lines dropped on both sides; `ls` exhausted -/
def Dropped (ext ls ls' : List (Nat × Str)) (A B : Option (Nat × Str) × Bool × List (Nat × Str) × Bool) : Prop :=
  (A = (none, false, [], true) ∧ B = (none, false, [], true)) ∨
  (∃ k re, k < ls.length ∧ A = handOn re (ls.drop k) ∧ B = handOn re (ls'.drop k ++ ext)) ∨
  (A = (none, false, [], false) ∧ (ext = [] → B = (none, false, [], false)))

theorem Dropped.cons {ext ls ls' A B} (x x' : Nat × Str) (h : Dropped ext ls ls' A B) : Dropped ext (x :: ls) (x' :: ls') A B := by
  rcases h with h | ⟨k, re, hk, h1, h2⟩ | h
  · exact .inl h
  · exact .inr (.inl ⟨k + 1, re, Nat.succ_lt_succ hk, h1, h2⟩)
  · exact .inr (.inr h)

theorem parseLine_oof {s : Str} (h : (parseLine s).2 ≠ false) : parseLine s = (none, true) := by
  unfold parseLine at h ⊢
  revert h
  cases Peg.line s <;> intro h <;> first | rfl | exact absurd rfl h

theorem skipCond_oof {all : Bool} {depth : Nat} {l : Nat × Str} {rest : List (Nat × Str)} (ho : ¬ noOof l) :
    skipCond all depth (l :: rest) = (none, false, [], true) := by
  simp only [skipCond, parseLine_oof ho]

theorem skipCond_drop (all : Bool) (ext : List (Nat × Str)) : ∀ {ls ls' : List (Nat × Str)}, SameDocs ls ls' → ∀ d : Nat,
    Dropped ext ls ls' (skipCond all d ls) (skipCond all d (ls' ++ ext)) := by
  intro ls ls' h
  induction h with
  | nil =>
    intro d
    exact .inr (.inr ⟨rfl, fun h => by subst h; rfl⟩)
  | cons n l l' ls ls' hp hs ih =>
    intro d
    have go : ∀ d', Dropped ext ((n, l) :: ls) ((n, l') :: ls') (skipCond all d' ls) (skipCond all d' (ls' ++ ext)) :=
      fun d' => (ih d').cons _ _
    have hk : kindOf (n, l') = kindOf (n, l) := by simp only [kindOf, hp]
    have ho' : noOof (n, l') ↔ noOof (n, l) := by simp only [noOof, hp]
    rw [List.cons_append]
    by_cases ho : noOof (n, l)
    · -- the line found stands at the front (`.elif`) or one further on (`.endif`, `.else`)
      have here : ∀ re, Dropped ext ((n, l) :: ls) ((n, l') :: ls') (handOn re ((n, l) :: ls)) (handOn re ((n, l') :: (ls' ++ ext))) :=
        fun re => .inr (.inl ⟨0, re, Nat.zero_lt_succ _, rfl, rfl⟩)
      have next : Dropped ext ((n, l) :: ls) ((n, l') :: ls') (handOn false ls) (handOn false (ls' ++ ext)) := by
        cases hs with
        | nil => exact .inr (.inr ⟨rfl, fun h => by subst h; rfl⟩)
        | cons _ _ _ _ _ _ _ => exact .inr (.inl ⟨1, false, by simp, rfl, rfl⟩)
      rw [skipCond_cons ho, skipCond_cons (ho'.2 ho), hk]
      cases kindOf (n, l) with
      | «open» => exact go _
      | other => exact go _
      | endif => dsimp only; split; exact next; exact go _
      | elif => dsimp only; split; exact here true; exact go _
      | els => dsimp only; split; exact next; exact go _
    · rw [skipCond_oof ho, skipCond_oof (mt ho'.1 ho)]
      exact .inl ⟨rfl, rfl⟩

theorem skipMacro_drop (ext : List (Nat × Str)) : ∀ {ls ls' : List (Nat × Str)}, SameDocs ls ls' → ∀ acc acc' : List (Nat × Str),
    Dropped ext ls ls' ((skipMacro acc ls).2.1, false, (skipMacro acc ls).2.2)
      ((skipMacro acc' (ls' ++ ext)).2.1, false, (skipMacro acc' (ls' ++ ext)).2.2) := by
  intro ls ls' h
  induction h with
  | nil => intro acc acc'; exact .inr (.inr ⟨rfl, fun h => by subst h; rfl⟩)
  | cons n l l' ls ls' hp hs ih =>
    intro acc acc'
    rw [List.cons_append]
    unfold skipMacro
    rw [← hp]
    split
    · split
      · cases hs with
        | nil => exact .inr (.inr ⟨rfl, fun h => by subst h; rfl⟩)
        | cons _ _ _ _ _ _ _ => exact .inr (.inl ⟨1, false, by simp, rfl, rfl⟩)
      · exact (ih _ _).cons _ _
    · exact .inl ⟨rfl, rfl⟩
    · exact (ih _ _).cons _ _

theorem skipStep_drop (ext : List (Nat × Str)) (ni : NextItem) {ls ls' : List (Nat × Str)} (h : SameDocs ls ls') (st st' : PState) :
    Dropped ext ls ls' (skipStep st ni ls).2 (skipStep st' ni (ls' ++ ext)).2 := by
  cases ni with
  | newLine =>
    cases h with
    | nil => exact .inr (.inr ⟨rfl, fun h => by subst h; rfl⟩)
    | cons _ _ _ _ _ _ _ => exact .inr (.inl ⟨0, false, by simp, rfl, rfl⟩)
  | endFile => exact .inr (.inr ⟨rfl, fun _ => rfl⟩)
  | endIf => exact skipCond_drop false ext h 0
  | endIfAll => exact skipCond_drop true ext h 0
  | endMacro => exact skipMacro_drop ext h [] []

theorem skipMacro_body_append (ext : List (Nat × Str)) : ∀ (ls acc : List (Nat × Str)) (x : Nat × Str),
    (skipMacro acc ls).2.1 = some x → (skipMacro acc (ls ++ ext)).1 = (skipMacro acc ls).1 := by
  intro ls
  induction ls with
  | nil => intro acc x h; cases h
  | cons y ys ih =>
    intro acc x h
    rw [List.cons_append]
    unfold skipMacro at h ⊢
    split at h
    · split at h
      · rename_i hd
        rw [if_pos hd, if_pos hd]
        cases ys with
        | nil => cases h
        | cons z zs => rfl
      · rename_i hd; rw [if_neg hd, if_neg hd]; exact ih _ _ h
    · cases h
    · exact ih _ _ h

theorem skipStep_newLine (st : PState) (ls : List (Nat × Str)) : skipStep st .newLine ls = (st, handOn false ls) := by
  cases ls <;> rfl

theorem skipStep_endIf (st : PState) (ls : List (Nat × Str)) : skipStep st .endIf ls = (st, skipCond false 0 ls) := rfl

theorem skipStep_endIfAll (st : PState) (ls : List (Nat × Str)) : skipStep st .endIfAll ls = (st, skipCond true 0 ls) := rfl

theorem skipStep_fst (st : PState) (ni : NextItem) (ls : List (Nat × Str)) (h : ni ≠ .endMacro) : (skipStep st ni ls).1 = st := by
  cases ni with
  | newLine => rw [skipStep_newLine]
  | endMacro => exact absurd rfl h
  | _ => rfl

theorem skipCond_drop₀ (all : Bool) {ls ls' : List (Nat × Str)} (h : SameDocs ls ls') (d : Nat) :
    Dropped [] ls ls' (skipCond all d ls) (skipCond all d ls') := by
  simpa only [List.append_nil] using skipCond_drop all [] h d

theorem skipMacro_drop₀ {ls ls' : List (Nat × Str)} (h : SameDocs ls ls') (acc acc' : List (Nat × Str)) :
    Dropped [] ls ls' ((skipMacro acc ls).2.1, false, (skipMacro acc ls).2.2)
      ((skipMacro acc' ls').2.1, false, (skipMacro acc' ls').2.2) := by
  simpa only [List.append_nil] using skipMacro_drop [] h acc acc'

theorem skipStep_drop₀ (ni : NextItem) {ls ls' : List (Nat × Str)} (h : SameDocs ls ls') (st st' : PState) :
    Dropped [] ls ls' (skipStep st ni ls).2 (skipStep st' ni ls').2 := by
  simpa only [List.append_nil] using skipStep_drop [] ni h st st'

theorem handOn_eq_some {re' re o : Bool} {ls rest : List (Nat × Str)} {l : Nat × Str}
    (h : handOn re' ls = (some l, re, rest, o)) : ls = l :: rest ∧ re' = re := by
  cases ls with
  | nil => cases h
  | cons x xs => cases h; exact ⟨rfl, rfl⟩

theorem skipStep_suffix {st st' : PState} {ni : NextItem} {ls rest : List (Nat × Str)} {l : Nat × Str} {re o : Bool}
    (h : skipStep st ni ls = (st', some l, re, rest, o)) : ∃ k, ls.drop k = l :: rest := by
  have h2 : (skipStep st ni ls).2 = (some l, re, rest, o) := by rw [h]
  rcases skipStep_drop₀ ni (sameDocs_refl ls) st st with ⟨h1, _⟩ | ⟨k, re', _, h1, _⟩ | ⟨h1, _⟩ <;> rw [h1] at h2
  · cases h2
  · exact ⟨k, (handOn_eq_some h2).1⟩
  · cases h2

theorem skipStep_shrinks {st : PState} {ni : NextItem} {ls : List (Nat × Str)} {st' : PState}
    {l : Nat × Str} {r : Bool} {rest : List (Nat × Str)} {o : Bool}
    (h : skipStep st ni ls = (st', some l, r, rest, o)) : rest.length < ls.length := by
  obtain ⟨k, hk⟩ := skipStep_suffix h
  have := congrArg List.length hk
  simp only [List.length_drop, List.length_cons] at this
  omega

theorem skipStep_local {st : PState} {ni : NextItem} {ls1 : List (Nat × Str)} (ls2 : List (Nat × Str)) {st' : PState}
    {l : Nat × Str} {re : Bool} {rest : List (Nat × Str)}
    (h : skipStep st ni ls1 = (st', some l, re, rest, false)) :
    skipStep st ni (ls1 ++ ls2) = (st', some l, re, rest ++ ls2, false) := by
  have h1 : (skipStep st ni (ls1 ++ ls2)).1 = st' := by
    have e : st' = (skipStep st ni ls1).1 := by rw [h]
    by_cases he : ni = .endMacro
    · subst he
      have hx : (skipMacro [] ls1).2.1 = some l := by
        have := congrArg (·.2.1) h
        simpa only [skipStep] using this
      rw [e]
      simp only [skipStep, skipMacro_body_append ls2 ls1 [] l hx]
    · rw [e, skipStep_fst _ _ _ he, skipStep_fst _ _ _ he]
  have h2 : (skipStep st ni (ls1 ++ ls2)).2 = (some l, re, rest ++ ls2, false) := by
    rcases skipStep_drop ls2 ni (sameDocs_refl ls1) st st with ⟨hA, _⟩ | ⟨k, re', _, hA, hB⟩ | ⟨hA, _⟩ <;>
      rw [h] at hA
    · cases hA
    · obtain ⟨hd, rfl⟩ := handOn_eq_some hA.symm
      rw [hB, hd]
      rfl
    · cases hA
  exact Prod.ext h1 h2

end Avra.Lemmas.Skip
