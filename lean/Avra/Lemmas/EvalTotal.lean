/-
  The evaluator never gives up: `Expr::run` has no fuel and no unbounded recursion, so the model's
  `evalWith` never answers `oof` when its symbols do not (used by C05, by operand resolution and by
  the failure lemmas of the build).
-/
import Avra.Model.Eval
namespace Avra.Lemmas
open Avra.Model

theorem ite_ne_oof {c : Prop} [Decidable c] {a b : EvalRes} (ha : a ≠ .oof) (hb : b ≠ .oof) :
    (if c then a else b) ≠ .oof := by
  split <;> assumption

theorem checked_ne_oof (v : Int) : checked v ≠ .oof := ite_ne_oof nofun nofun

theorem funcEval_ne_oof (n : Str) (v : Int) : funcEval n v ≠ .oof := by
  unfold funcEval
  repeat' refine ite_ne_oof ?_ ?_
  all_goals nofun

theorem binEval_ne_oof (op : BinOp) (l r : Int) : binEval op l r ≠ .oof := by
  cases op
  case add | sub | mul => exact checked_ne_oof _
  case div => exact ite_ne_oof nofun (checked_ne_oof _)
  case rem => exact ite_ne_oof nofun (ite_ne_oof nofun nofun)
  case shl | shr => exact ite_ne_oof nofun nofun
  all_goals nofun

theorem unEval_ne_oof (op : UnOp) (v : Int) : unEval op v ≠ .oof := by
  cases op
  case minus => exact checked_ne_oof _
  all_goals nofun

theorem bind_ne_oof {m : EvalRes} {f : Int → EvalRes} (hm : m ≠ .oof) (hf : ∀ v, f v ≠ .oof) :
    (match (generalizing := false) m with | .ok v => f v | r => r) ≠ .oof := by
  cases m with
  | ok v => exact hf v
  | err e => nofun
  | oof => exact hm

theorem evalWith_ne_oof (sym : Str → EvalRes) (hs : ∀ n, sym n ≠ .oof) : ∀ e, evalWith sym e ≠ .oof := by
  intro e
  induction e with
  | ident n => exact hs n
  | const v => nofun
  | func nm arg _ iha =>
    cases nm with
    | ident name => exact bind_ne_oof iha fun _ => funcEval_ne_oof _ _
    | _ => nofun
  | bin op l r ihl ihr => exact bind_ne_oof ihl fun _ => bind_ne_oof ihr fun _ => binEval_ne_oof _ _ _
  | un op e ih => exact bind_ne_oof ih fun _ => unEval_ne_oof _ _

end Avra.Lemmas
