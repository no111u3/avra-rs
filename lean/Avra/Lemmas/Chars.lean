/-
  Character classes as ranges of code points: every inclusion or exclusion between the classes of
  Basic/Peg (`isDigit`, `isIdentStart`, `isSpace`, …) and single characters is then linear
  arithmetic on `Char.toNat`, which `char_arith` hands to `omega`.
-/
import Avra.Model.Peg
namespace Avra.Chars
open Avra.Peg

theorem between (lo hi c : Char) : (decide (lo ≤ c) && decide (c ≤ hi)) = true ↔ lo.toNat ≤ c.toNat ∧ c.toNat ≤ hi.toNat := by
  simp only [Bool.and_eq_true, decide_eq_true_eq, Char.le_def, UInt32.le_iff_toNat_le]; exact Iff.rfl

theorem eq_iff (c d : Char) : c = d ↔ c.toNat = d.toNat :=
  ⟨fun h => h ▸ rfl, fun h => Char.ext (UInt32.toNat_inj.mp h)⟩

theorem isDigit_iff (c : Char) : isDigit c = true ↔ 48 ≤ c.toNat ∧ c.toNat ≤ 57 := between '0' '9' c
theorem isAlpha_iff (c : Char) : isAlpha c = true ↔ (97 ≤ c.toNat ∧ c.toNat ≤ 122) ∨ (65 ≤ c.toNat ∧ c.toNat ≤ 90) := by
  simp only [isAlpha, Bool.or_eq_true, between]; exact Iff.rfl
theorem isIdentStart_iff (c : Char) : isIdentStart c = true ↔ (97 ≤ c.toNat ∧ c.toNat ≤ 122) ∨ (65 ≤ c.toNat ∧ c.toNat ≤ 90) ∨ c.toNat = 95 := by
  simp only [isIdentStart, Bool.or_eq_true, isAlpha_iff, beq_iff_eq, eq_iff c '_', or_assoc]; exact Iff.rfl
theorem isIdentChar_iff (c : Char) : isIdentChar c = true ↔
    (97 ≤ c.toNat ∧ c.toNat ≤ 122) ∨ (65 ≤ c.toNat ∧ c.toNat ≤ 90) ∨ (48 ≤ c.toNat ∧ c.toNat ≤ 57) ∨ c.toNat = 95 := by
  simp only [isIdentChar, Bool.or_eq_true, isAlpha_iff, isDigit_iff, beq_iff_eq, eq_iff c '_', or_assoc]; exact Iff.rfl
theorem isHexDigit_iff (c : Char) : isHexDigit c = true ↔
    (48 ≤ c.toNat ∧ c.toNat ≤ 57) ∨ (97 ≤ c.toNat ∧ c.toNat ≤ 102) ∨ (65 ≤ c.toNat ∧ c.toNat ≤ 70) := by
  simp only [isHexDigit, Bool.or_eq_true, isDigit_iff, between, or_assoc]; exact Iff.rfl
theorem isOctDigit_iff (c : Char) : isOctDigit c = true ↔ 48 ≤ c.toNat ∧ c.toNat ≤ 55 := between '0' '7' c
theorem isLowerAlpha_iff (c : Char) : isLowerAlpha c = true ↔ 97 ≤ c.toNat ∧ c.toNat ≤ 122 := between 'a' 'z' c
theorem isBinDigit_iff (c : Char) : isBinDigit c = true ↔ c.toNat = 48 ∨ c.toNat = 49 := by
  simp only [isBinDigit, Bool.or_eq_true, beq_iff_eq, eq_iff]; exact Iff.rfl
theorem isSpace_iff (c : Char) : isSpace c = true ↔ c.toNat = 32 ∨ c.toNat = 9 := by
  simp only [isSpace, Bool.or_eq_true, beq_iff_eq, eq_iff]; exact Iff.rfl

macro "char_arith" : tactic => `(tactic| (
  simp only [Bool.eq_false_iff, ne_eq, isDigit_iff, isAlpha_iff, isIdentStart_iff, isIdentChar_iff, isHexDigit_iff,
    isOctDigit_iff, isLowerAlpha_iff, isBinDigit_iff, isSpace_iff, eq_iff, Char.reduceToNat] at *
  omega))

theorem space_facts {w : Char} (hw : isSpace w = true) :
    isIdentStart w = false ∧ isIdentChar w = false ∧ isLowerAlpha w = false ∧ w ≠ ':' := by
  char_arith

theorem identStart_facts (y : Char) (h : isIdentStart y = true) :
    isDigit y = false ∧ isSpace y = false ∧ y ≠ '$' ∧ y ≠ '(' ∧ y ≠ '\'' ∧ y ≠ '-' ∧ y ≠ '~' ∧ y ≠ '!' ∧ y ≠ '0' := by
  char_arith

end Avra.Chars
