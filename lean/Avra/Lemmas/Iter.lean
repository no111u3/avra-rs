/-
  The line loop `parseIterWith` as the iteration of one step `loopStep` (`parseIterWith_succ`);
  it does not depend on its iteration bound once the bound exceeds the number of remaining lines
  (`fuel_irrelevant`); canonical form `runFrom` and its one-step unfolding.  In front: what the
  state operations of a line leave alone, everything but the segments (`modifyLast_eq`).
-/
import Avra.Lemmas.Skip
namespace Avra.Model

/-- stated as a record update: every other field of the result is, by `rfl` after this rewrite,
    the field of `st` -/
theorem PState.modifyLast_eq (st : PState) (f : Segment → Segment) :
    st.modifyLast f = { st with segments := (st.modifyLast f).segments } := by
  unfold PState.modifyLast
  split <;> rfl

theorem PState.pushToLast_eq (st : PState) (ln : Nat) (it : Item) :
    st.pushToLast ln it = { st with segments := (st.pushToLast ln it).segments } :=
  st.modifyLast_eq _

end Avra.Model

namespace Avra.Lemmas.Iter
open Avra.Model Avra.Lemmas.Skip

/-- where the loop stands: include set, state, what to skip, remaining lines -/
abbrev Cfg := List Str × PState × NextItem × List (Nat × Str)

/-- one round of `parse_iter`: the loop is over (left) or goes on from a new configuration (right) -/
def loopStep (inc : IncludeFn) (cur : Str) (c : Cfg) : Out ((PState × List Str) ⊕ Cfg) :=
  match skipStep c.2.1 c.2.2.1 c.2.2.2 with
  | (_, _, _, _, true) => .oof
  | (st, none, _, _, false) => .ok (.inl (st, c.1))
  | (st, some (idx, text), redelivered, rest, false) =>
    match lineStep inc cur c.1 st idx text redelivered with
    | .ok (st', incs', ni') => .ok (.inr (incs', st', ni', rest))
    | .error e => .error e
    | .panic s => .panic s
    | .oof => .oof

def resume (k : Cfg → Out (PState × List Str)) : Out ((PState × List Str) ⊕ Cfg) → Out (PState × List Str)
  | .ok (.inl r) => .ok r
  | .ok (.inr c) => k c
  | .error e => .error e
  | .panic s => .panic s
  | .oof => .oof

theorem parseIterWith_succ (inc : IncludeFn) (cur : Str) (lf : Nat) (incs : List Str) (st : PState) (ni : NextItem)
    (ls : List (Nat × Str)) :
    parseIterWith inc cur (lf + 1) incs st ni ls =
      resume (fun c => parseIterWith inc cur lf c.1 c.2.1 c.2.2.1 c.2.2.2) (loopStep inc cur (incs, st, ni, ls)) := by
  simp only [parseIterWith, loopStep]
  rcases skipStep st ni ls with ⟨s, _ | ⟨i, t⟩, re, rest, _ | _⟩ <;> try rfl
  simp only
  cases lineStep inc cur incs s i t re <;> rfl

theorem loopStep_shrinks {inc : IncludeFn} {cur : Str} {c c' : Cfg} (h : loopStep inc cur c = .ok (.inr c')) :
    c'.2.2.2.length < c.2.2.2.length := by
  unfold loopStep at h
  split at h
  · cases h
  · cases h
  · rename_i hs
    have := skipStep_shrinks hs
    split at h <;> cases h
    exact this

/-- the iteration bound is irrelevant once it exceeds the number of remaining lines -/
theorem fuel_irrelevant (inc : IncludeFn) (cur : Str) : ∀ (lf lf' : Nat) (incs : List Str) (st : PState)
    (ni : NextItem) (ls : List (Nat × Str)), ls.length < lf → ls.length < lf' →
    parseIterWith inc cur lf incs st ni ls = parseIterWith inc cur lf' incs st ni ls := by
  intro lf
  induction lf with
  | zero => intro lf' incs st ni ls h; omega
  | succ lf ih =>
    intro lf' incs st ni ls h h'
    cases lf' with
    | zero => omega
    | succ lf' =>
      rw [parseIterWith_succ, parseIterWith_succ]
      cases hs : loopStep inc cur (incs, st, ni, ls) with
      | ok v =>
        cases v with
        | inl r => rfl
        | inr c =>
          have := loopStep_shrinks hs
          exact ih lf' _ _ _ _ (by simp only at this; omega) (by simp only at this; omega)
      | error e => rfl
      | panic p => rfl
      | oof => rfl

def runFrom (inc : IncludeFn) (cur : Str) (s : PState × List Str) (ni : NextItem)
    (ls : List (Nat × Str)) : Out (PState × List Str) :=
  parseIterWith inc cur (ls.length + 1) s.2 s.1 ni ls

theorem runFrom_resume (inc : IncludeFn) (cur : Str) (s : PState × List Str) (ni : NextItem) (ls : List (Nat × Str)) :
    runFrom inc cur s ni ls =
      resume (fun c => runFrom inc cur (c.2.1, c.1) c.2.2.1 c.2.2.2) (loopStep inc cur (s.2, s.1, ni, ls)) := by
  unfold runFrom
  rw [parseIterWith_succ]
  cases hs : loopStep inc cur (s.2, s.1, ni, ls) with
  | ok v =>
    cases v with
    | inl r => rfl
    | inr c => exact fuel_irrelevant inc cur _ _ _ _ _ _ (loopStep_shrinks hs) (Nat.lt_succ_self _)
  | error e => rfl
  | panic p => rfl
  | oof => rfl

theorem runFrom_step (inc : IncludeFn) (cur : Str) (s : PState × List Str) (ni : NextItem)
    (ls : List (Nat × Str)) :
    runFrom inc cur s ni ls =
      match skipStep s.1 ni ls with
      | (_, _, _, _, true) => .oof
      | (st, none, _, _, false) => .ok (st, s.2)
      | (st, some (idx, text), redelivered, rest, false) =>
        match lineStep inc cur s.2 st idx text redelivered with
        | .ok (st', incs', ni') => runFrom inc cur (st', incs') ni' rest
        | .error e => .error e
        | .panic p => .panic p
        | .oof => .oof := by
  rw [runFrom_resume]
  simp only [loopStep]
  rcases skipStep s.1 ni ls with ⟨s, _ | ⟨i, t⟩, re, rest, _ | _⟩ <;> try rfl
  simp only
  cases lineStep inc cur _ s i t re <;> rfl

end Avra.Lemmas.Iter
