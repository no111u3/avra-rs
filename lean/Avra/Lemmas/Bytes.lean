/-
  Every image a build returns consists of bytes (values below 256): instruction words are split
  with `% 256`, data values are reduced to their width, strings are UTF-8, padding is zero.
  The file stands above Props/C06, which says what the bytes of a data operand are
  (`C06.operandBytes_val`), and takes the pass lemmas (Lemmas/Passes, BuildEq) through it.
-/
import Avra.Props.C06
namespace Avra.Lemmas.Bytes
open Avra.Model Avra.Props

theorem bytesOk_append {a b : List Nat} (ha : bytesOk a) (hb : bytesOk b) : bytesOk (a ++ b) :=
  List.forall_mem_append.2 ⟨ha, hb⟩

theorem bytesOk_nil : bytesOk [] := nofun

theorem bytesOk_replicate (n : Nat) : bytesOk (List.replicate n 0) :=
  fun _ h => List.eq_of_mem_replicate h ▸ Nat.zero_lt_succ _

theorem leBytes_ok (w x : Nat) : bytesOk (leBytes w x) := by
  rw [C06.leBytes_byte]
  exact List.forall_mem_map.2 fun _ _ => Nat.mod_lt _ (by decide)

theorem isaBytes_ok (ws : List Nat) : bytesOk (Isa.bytes ws) := by
  intro b hb
  simp only [Isa.bytes, List.mem_flatMap, List.mem_cons, List.not_mem_nil, or_false] at hb
  obtain ⟨w, _, rfl | rfl⟩ := hb <;> omega

theorem process_ok (c : Ctx) (op : Op) (args : List IOp) (addr : Nat) (bytes : List Nat)
    (h : process c op args addr = .ok bytes) : bytesOk bytes := by
  rw [Lemmas.process_eq c op args addr _ (Lemmas.resolve_eq c _ args)] at h
  split at h <;> cases h
  exact isaBytes_ok _

theorem utf8Char_ok (c : Char) : bytesOk (utf8Char c) := by
  have hv : c.toNat < 1114112 := by
    have := c.valid
    simp only [Char.toNat, UInt32.isValidChar, Nat.isValidChar] at this ⊢
    omega
  intro b hb
  unfold utf8Char at hb
  dsimp only at hb
  -- the four encodings: a tag plus the leading bits (at most 5 in the longest, by `hv`), then
  -- 6-bit fields
  repeat' split at hb
  all_goals simp only [List.mem_cons, List.not_mem_nil, or_false] at hb; omega

theorem utf8_ok (s : Str) : bytesOk (utf8 s) := by
  intro b hb
  simp only [utf8, List.mem_flatMap] at hb
  obtain ⟨c, _, hc⟩ := hb
  exact utf8Char_ok c b hc

theorem operandBytes_ok (c : Ctx) (dt : DataDefine) (o : Operand) (bytes : List Nat)
    (h : operandBytes c dt o = .ok bytes) : bytesOk bytes := by
  cases o with
  | s s => cases dt <;> cases h; exact utf8_ok s
  | e e =>
    cases he : eval c e with
    | ok v =>
      rw [C06.operandBytes_val dt he] at h
      split at h <;> cases h
      exact leBytes_ok _ _
    | _ => simp [operandBytes, he] at h

theorem dataBytes_ok (c : Ctx) (dt : DataDefine) : ∀ (ops : List Operand) (bytes : List Nat),
    dataBytes c dt ops = .ok bytes → bytesOk bytes :=
  dataBytes_induction (fun _ bs => bytesOk bs) bytesOk_nil
    fun _ _ _ _ ho _ ih => bytesOk_append (operandBytes_ok _ _ _ _ ho) ih

theorem pass2Step_bytes {t : SegT} {ctx : Ctx} {cur ln : Nat} {it : Item} {r : Nat × List Nat × Ctx}
    (h : pass2Step t ctx cur ln it = .ok r) : bytesOk r.2.1 := by
  obtain ⟨-, he⟩ := pass2Step_ok h
  cases it with
  | instruction op args => exact process_ok _ _ _ _ _ he.1
  | data dt ops => exact dataBytes_ok _ _ _ _ he.1
  | reserveData n => rw [he.2]; exact bytesOk_replicate _
  | _ => rw [he.2]; exact bytesOk_nil

theorem pass2Items_ok (t : SegT) : ∀ (its : List (Nat × Item)) (cur : Nat) (acc : List Nat) (ctx : Ctx)
    (frag : List Nat) (ctx' : Ctx), bytesOk acc → pass2Items t its cur acc ctx = .ok (frag, ctx') → bytesOk frag := by
  intro its
  induction its with
  | nil => intro cur acc ctx frag ctx' ha h; cases h; exact ha
  | cons x rest ih =>
    intro cur acc ctx frag ctx' ha h
    rw [pass2Items_cons] at h
    obtain ⟨r, hs, hr⟩ := Out.bind_eq_ok h
    exact ih _ _ _ _ _ (bytesOk_append ha (pass2Step_bytes hs)) hr

theorem pass2go_ok (p1 : Pass1Result) : ∀ (segs : List Segment) (code ee : List Nat) (ctx : Ctx) (r : Pass2Result),
    bytesOk code → bytesOk ee → pass2.go p1 segs code ee ctx = .ok r → bytesOk r.code ∧ bytesOk r.eeprom := by
  intro segs
  induction segs with
  | nil => intro code ee ctx r hc he h; cases h; exact ⟨hc, he⟩
  | cons s more ih =>
    intro code ee ctx r hc he h
    unfold pass2.go at h
    dsimp only at h
    split at h
    · have hf := pass2Items_ok _ _ _ _ _ _ _ bytesOk_nil ‹_›
      -- the image the segment goes to is padded with zeros up to the segment's address, then gets `frag`
      have grow := fun {l : List Nat} (hl : bytesOk l) n => bytesOk_append (bytesOk_append hl (bytesOk_replicate n)) hf
      cases ht : s.t <;> simp only [ht] at h
      · exact ih _ _ _ _ (grow hc _) he h
      · exact ih _ _ _ _ hc he h
      · exact ih _ _ _ _ hc (grow he _) h
    all_goals cases h

/-- every image a build returns consists of bytes -/
theorem build_bytes_ok (fs : Fs) (st : PState) (b : BuildResult) (h : buildFromParsed fs st = .ok b) :
    bytesOk b.code ∧ bytesOk b.eeprom := by
  obtain ⟨_, p1, p2, _, _, h2, hf⟩ := buildFromParsed_ok h
  obtain ⟨_, rfl⟩ := fitResult_ok hf
  exact pass2go_ok _ _ _ _ _ _ bytesOk_nil bytesOk_nil h2

end Avra.Lemmas.Bytes
