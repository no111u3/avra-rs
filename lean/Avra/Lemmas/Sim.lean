/-
  Two runs side by side: results related by `OutRel`, and case analysis on related results
  (`outRel_elim`).
-/
import Avra.Model.Eval
namespace Avra.Props.C14
open Avra.Model

def OutRel {α : Type} (R : α → α → Prop) : Out α → Out α → Prop
  | .ok a, .ok b => R a b
  | .error e, .error e' => e = e'
  | .panic p, .panic p' => p = p'
  | .oof, .oof => True
  | _, _ => False

end Avra.Props.C14

namespace Avra.Lemmas.Sim
open Avra.Model Avra.Props.C14

/-- The model writes its binds out as four-way matches; with this eliminator the motive is found
    from the goal and the three failure cases reduce to `rfl` / `trivial`. -/
@[elab_as_elim]
theorem outRel_elim {α : Type} {R : α → α → Prop} {P : Out α → Out α → Prop} {A B : Out α} (h : OutRel R A B)
    (ok : ∀ a b, A = .ok a → B = .ok b → R a b → P (.ok a) (.ok b)) (error : ∀ e, P (.error e) (.error e))
    (panic : ∀ p, P (.panic p) (.panic p)) (oof : P .oof .oof) : P A B := by
  cases A <;> cases B <;> simp only [OutRel] at h
  · exact ok _ _ rfl rfl h
  · subst h; exact error _
  · subst h; exact panic _
  · exact oof

end Avra.Lemmas.Sim
