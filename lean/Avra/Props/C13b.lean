/-
  C13 inside pass 2: an instruction the selected device lacks ends the build with an error that
  names its line; an instruction it has assembles to the same bytes as on any other device
  (lds/sts excepted: the reduced core has its own one-word form).
-/
import Avra.Props.C13
import Avra.Lemmas.Resolve
import Avra.Lemmas.Outcome
namespace Avra.Props.C13b
open Avra.Model Avra.Lemmas Avra.Props.C13 Avra.Props.C03b

/-- an instruction that needs a feature the device lacks (by the independent table of
    requirements, `Spec.allowed`) fails the build, naming the line -/
theorem gated_item_rejected (t : SegT) (ln : Nat) (op : Op) (args : List IOp) (rest : List (Nat × Item))
    (cur : Nat) (acc : List Nat) (ctx : Ctx) (h : Spec.allowed ctx.device.opts op args = false) :
    pass2Items t ((ln, .instruction op args) :: rest) cur acc ctx =
      .error ⟨some ln, "not-allowed-for-device"⟩ := by
  rw [pass2Items_instruction, gate_exact, h]; rfl

/-- … and one it has goes to the encoder -/
theorem allowed_item (t : SegT) (ln : Nat) (op : Op) (args : List IOp) (rest : List (Nat × Item))
    (cur : Nat) (acc : List Nat) (ctx : Ctx) (h : Spec.allowed ctx.device.opts op args = true) :
    pass2Items t ((ln, .instruction op args) :: rest) cur acc ctx =
      match process (atPc ctx cur) op args cur with
      | .ok bytes => pass2Items t rest (cur + bytes.length / 2) (acc ++ bytes) (atPc ctx cur)
      | .err => .error ⟨some ln, "instruction"⟩
      | .oof => .oof := by
  rw [pass2Items_instruction, gate_exact, h]; rfl

theorem symAt_device (c : Ctx) (d : Device) : ∀ k name, symAt { c with device := d } k name = symAt c k name := by
  intro k
  induction k with
  | zero => intro name; rfl
  | succ k ih =>
    intro name
    have : symAt { c with device := d } k = symAt c k := funext ih
    simp only [symAt, this]
    rfl

theorem eval_device (c : Ctx) (d : Device) (e : Expr) : eval { c with device := d } e = eval c e := by
  unfold eval
  rw [show symAt { c with device := d } maxSymbolDepth = symAt c maxSymbolDepth from funext (symAt_device c d _)]

theorem resolveOne_device (c : Ctx) (d : Device) (a : Acc) (o : IOp) :
    resolveOne { c with device := d } a o = resolveOne c a o := by
  cases a with
  | reg => cases o <;> rfl
  | val => cases o <;> simp [resolveOne, asVal, eval_device]
  | idx =>
    cases o with
    | index i => cases i <;> simp [resolveOne, asIdx, resolveIndex, eval_device]
    | r8 n => rfl
    | e e => rfl

theorem resolve_device (c : Ctx) (d : Device) : ∀ (accs : List Acc) (args : List IOp),
    resolve { c with device := d } accs args = resolve c accs args := by
  intro accs args
  induction args generalizing accs with
  | nil => cases accs <;> rfl
  | cons o os ih =>
    cases accs with
    | nil => simp only [resolve, ih]
    | cons a as => simp only [resolve, resolveOne_device, ih]

/-- **C13, second half, for whole instructions**: on any two devices an instruction other than
    lds/sts — any mnemonic, any operands, any symbols and aliases — assembles to the same bytes
    (or fails alike): the device decides only WHETHER it is accepted (`gate_exact`), never what it
    assembles to. -/
theorem same_bytes_on_every_device (c : Ctx) (d : Device) (op : Op) (args : List IOp) (addr : Nat)
    (hstd : ∀ n, op ≠ .custom n) (hc : ctxRegsOk c) (hargs : iopsOk args)
    (hlds : op ≠ .lds) (hsts : op ≠ .sts) :
    process { c with device := d } op args addr = process c op args addr := by
  have hres := resolve_eq c (accessors op) args
  have hr := resolve_regsOk c hc _ _ _ hargs hres
  rw [process_eq c op args addr _ hres, process_eq _ op args addr _ ((resolve_device c d _ _).trans hres),
    device_frame ({ c with device := d } : Ctx).device.isAvr8l c.device.isAvr8l op _ addr hstd hr hlds hsts]

/-! non-vacuity -/
example : (alookup "ATtiny13".toList Gen.devices).map (fun d => Spec.allowed d.opts .muls [.r8 16, .r8 17]) = some false := by decide
example : (alookup "ATmega8".toList Gen.devices).map (fun d => Spec.allowed d.opts .muls [.r8 16, .r8 17]) = some true := by decide

end Avra.Props.C13b
