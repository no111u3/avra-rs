/-
  C01 and C04 inside pass 2: an instruction line the device accepts and the ISA can encode puts
  exactly the ISA words of that instruction, low byte first, behind everything emitted before and
  moves the address on by their number; one the ISA cannot encode ends the build naming the line.
-/
import Avra.Props.C04
import Avra.Props.C13b
namespace Avra.Props.C01b
open Avra.Model Avra.Isa Avra.Lemmas Avra.Props.C01 Avra.Props.C04 Avra.Props.C03b Avra.Props.C13b

/-- C01 inside pass 2 -/
theorem instruction_item (t : SegT) (ln : Nat) (op : Op) (args : List IOp) (rest : List (Nat × Item))
    (cur : Nat) (acc : List Nat) (ctx : Ctx) (r : List AArg) (i : Instr)
    (hstd : isStd op) (hc : ctxRegsOk (atPc ctx cur)) (hargs : iopsOk args)
    (hgate : Spec.allowed ctx.device.opts op args = true)
    (hres : resolve (atPc ctx cur) (accessors op) args = some r)
    (hleg : surface ctx.device.isAvr8l op r cur = some i) :
    pass2Items t ((ln, .instruction op args) :: rest) cur acc ctx =
      pass2Items t rest (cur + (encode i).length) (acc ++ Isa.bytes (encode i)) (atPc ctx cur) := by
  rw [allowed_item t ln op args rest cur acc ctx hgate,
      process_complete (atPc ctx cur) op args cur r i hstd hc hargs hres hleg]
  simp only [bytes_words]

/-- C04 inside pass 2: operands the ISA cannot encode for the mnemonic end the build with an error
    that names the line — nothing is emitted for it -/
theorem unencodable_item (t : SegT) (ln : Nat) (op : Op) (args : List IOp) (rest : List (Nat × Item))
    (cur : Nat) (acc : List Nat) (ctx : Ctx) (r : List AArg)
    (hstd : isStd op) (hc : ctxRegsOk (atPc ctx cur)) (hargs : iopsOk args)
    (hgate : Spec.allowed ctx.device.opts op args = true)
    (hres : resolve (atPc ctx cur) (accessors op) args = some r)
    (hill : surface ctx.device.isAvr8l op r cur = none) :
    pass2Items t ((ln, .instruction op args) :: rest) cur acc ctx = .error ⟨some ln, "instruction"⟩ := by
  rw [allowed_item t ln op args rest cur acc ctx hgate,
      process_rejects (atPc ctx cur) op args cur r hstd hc hargs hres hill]

/-! non-vacuity -/
example : surface false .ldi [.reg 16, .val 255] 7 = some (.imm .ldi 16 255) := by decide
example : surface false .ldi [.reg 5, .val 1] 7 = none := by decide

end Avra.Props.C01b
