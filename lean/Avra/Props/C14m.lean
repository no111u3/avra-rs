/-
  C14 at the level of the build, macro bodies included — `build_same_macro_bodies`.

  The parser stores a macro body as TEXT and parses it again at every call, after pasting the
  call's operands over `@0`, `@1`, ….  A body line may be replaced by a line that parses to the
  same thing when neither holds an `@` (so nothing is pasted into it) and neither is longer than
  MAX_MACRO_LINE; keeping the bodies as they are (`build_same_outside_macro_bodies`) and programs
  without macro definitions (`build_same`) are special cases.  The two builds do not run through the
  same states — their macro tables hold different texts — so the proof is a simulation: a relation
  between parser states that differ only in the texts of related bodies (`StRel`), preserved by
  every directive (`directiveParse_rel`, from the frame lemma `directiveParse_frame`: no directive
  but `.include` looks at the macro table), by the line loop with its skippers
  (`parseIterWith_rel`), by included files (`parseFileAt_rel`, induction on the include depth), by
  the expansion of a call (`macroExpand_rel`: related bodies stay related under substitution,
  `substArgs_noAt`) and by the nested pass-0 loops (`pass0At_rel`, induction on the macro depth);
  the passes after pass 0 never look at the macro table (`buildFromParsed_rel`).

  The handlers are related across TWO file systems (`FsRel`: the same directories and file names,
  the files related line by line), so the statement reaches `build_file` and every included file:
  `build_file_same`, `build_str_same`.
-/
import Avra.Props.C14b
import Avra.Lemmas.BuildEq
namespace Avra.Props.C14
open Avra.Model Avra.Lemmas.Skip Avra.Lemmas.Sim

def setM (st : PState) (M : List (Str × List (Nat × Str))) : PState := { st with macros := M }

def frameOut (M : List (Str × List (Nat × Str))) : Out (PState × List Str × NextItem) → Out (PState × List Str × NextItem)
  | .ok (s, i, n) => .ok (setM s M, i, n)
  | .error e => .error e
  | .panic p => .panic p
  | .oof => .oof

@[simp] theorem setM_segments (st : PState) (M) : (setM st M).segments = st.segments := rfl
@[simp] theorem setM_ctx (st : PState) (M) : (setM st M).ctx = st.ctx := rfl
@[simp] theorem setM_messages (st : PState) (M) : (setM st M).messages = st.messages := rfl
@[simp] theorem setM_macroName (st : PState) (M) : (setM st M).macroName = st.macroName := rfl
@[simp] theorem setM_lastSeg (st : PState) (M) : (setM st M).lastSeg = st.lastSeg := rfl

@[simp] theorem modifyLast_setM (st : PState) (M) (f : Segment → Segment) : (setM st M).modifyLast f = setM (st.modifyLast f) M := by
  unfold PState.modifyLast
  simp only [setM_segments]
  split <;> rfl

@[simp] theorem pushToLast_setM (st : PState) (M) (ln : Nat) (it : Avra.Item) : (setM st M).pushToLast ln it = setM (st.pushToLast ln it) M :=
  modifyLast_setM st M _

@[simp] theorem addSegment_setM (st : PState) (M) (sg : Segment) : (setM st M).addSegment sg = setM (st.addSegment sg) M := rfl

theorem directiveParse_frame₂ (inc inc' : IncludeFn) (cur : Str) (incs : List Str) (st : PState) (d : Directive)
    (ops : DirectiveOps) (ln : Nat) (M : List (Str × List (Nat × Str))) (hd : d ≠ .include) :
    directiveParse inc' cur incs (setM st M) d ops ln = frameOut M (directiveParse inc cur incs st d ops ln) := by
  unfold directiveParse
  dsimp only [setM_ctx, setM_lastSeg]
  simp only [pushToLast_setM, modifyLast_setM, addSegment_setM]
  repeat' split
  -- most leaves are the same arm on both sides; `.equ` keeps an `if` on the state, which the
  -- condition `h` of the split decides; `.org` and the segment directives build their state in two
  -- steps, through which `setM` has to be moved; the `.include` leaf contradicts `hd`
  all_goals first
    | rfl
    | (rename_i h; simp only [h, ↓reduceIte, modifyLast_setM]; rfl)
    | (simp_all [frameOut]; done)

theorem directiveParse_frame (inc : IncludeFn) (cur : Str) (incs : List Str) (st : PState) (d : Directive)
    (ops : DirectiveOps) (ln : Nat) (M : List (Str × List (Nat × Str))) (hd : d ≠ .include) :
    directiveParse inc cur incs (setM st M) d ops ln = frameOut M (directiveParse inc cur incs st d ops ln) :=
  directiveParse_frame₂ inc inc cur incs st d ops ln M hd

@[simp] theorem setM_macros (st : PState) (M) : (setM st M).macros = M := rfl
theorem setM_self (st : PState) : setM st st.macros = st := rfl
@[simp] theorem setM_setM (st : PState) (M M') : setM (setM st M) M' = setM st M' := rfl

/-! ### text that is kept: macro bodies -/

/-- a line of a macro body may be replaced by a line that parses alike when neither holds an `@`
    (nothing is substituted into it) and neither is longer than MAX_MACRO_LINE -/
def BodyLineRel (l l' : Str) : Prop :=
  l = l' ∨ (parseLine l = parseLine l' ∧ '@' ∉ l ∧ '@' ∉ l' ∧ (utf8 l).length ≤ macroLine ∧ (utf8 l').length ≤ macroLine)

theorem bodyLineRel_parse (l l' : Str) (h : BodyLineRel l l') : parseLine l = parseLine l' := by
  rcases h with rfl | h
  · rfl
  · exact h.1

inductive BodyRel : List (Nat × Str) → List (Nat × Str) → Prop
  | nil : BodyRel [] []
  | cons (n : Nat) (l l' : Str) (b b' : List (Nat × Str)) : BodyLineRel l l' → BodyRel b b' → BodyRel ((n, l) :: b) ((n, l') :: b')

theorem bodyRel_refl : ∀ b : List (Nat × Str), BodyRel b b
  | [] => .nil
  | (n, l) :: rest => .cons n l l rest rest (Or.inl rfl) (bodyRel_refl rest)

inductive TabRel : List (Str × List (Nat × Str)) → List (Str × List (Nat × Str)) → Prop
  | nil : TabRel [] []
  | cons (k : Str) (b b' : List (Nat × Str)) (m m' : List (Str × List (Nat × Str))) :
      BodyRel b b' → TabRel m m' → TabRel ((k, b) :: m) ((k, b') :: m')

theorem tabRel_refl : ∀ m : List (Str × List (Nat × Str)), TabRel m m
  | [] => .nil
  | (k, b) :: rest => .cons k b b rest rest (bodyRel_refl b) (tabRel_refl rest)

theorem tabRel_filter (k : Str) : ∀ (m m' : List (Str × List (Nat × Str))), TabRel m m' →
    TabRel (m.filter (fun p => p.1 ≠ k)) (m'.filter (fun p => p.1 ≠ k)) := by
  intro m m' h
  induction h with
  | nil => exact .nil
  | cons k2 b b' m m' hb _ ih =>
    simp only [List.filter_cons]
    split
    · exact .cons k2 b b' _ _ hb ih
    · exact ih

theorem tabRel_ainsert (k : Str) (b b' : List (Nat × Str)) (m m' : List (Str × List (Nat × Str)))
    (hb : BodyRel b b') (h : TabRel m m') : TabRel (ainsert k b m) (ainsert k b' m') :=
  .cons k b b' _ _ hb (tabRel_filter k m m' h)

theorem tabRel_lookup (k : Str) : ∀ (m m' : List (Str × List (Nat × Str))), TabRel m m' →
    (alookup k m = none ∧ alookup k m' = none) ∨ ∃ b b', alookup k m = some b ∧ alookup k m' = some b' ∧ BodyRel b b' := by
  intro m m' h
  induction h with
  | nil => exact Or.inl ⟨rfl, rfl⟩
  | cons k2 b b' m m' hb _ ih =>
    simp only [alookup]
    split
    · exact Or.inr ⟨b, b', rfl, rfl, hb⟩
    · exact ih

/-- two parser states that differ at most in the texts of the macro bodies they hold -/
def StRel (st st' : PState) : Prop := st' = setM st st'.macros ∧ TabRel st.macros st'.macros

theorem stRel_refl (st : PState) : StRel st st := ⟨rfl, tabRel_refl _⟩

theorem stRel_setM (st : PState) (M M' : List (Str × List (Nat × Str))) (h : TabRel M M') : StRel (setM st M) (setM st M') :=
  ⟨rfl, h⟩

theorem stRel_cases (st st' : PState) (h : StRel st st') : ∃ s M M', st = setM s M ∧ st' = setM s M' ∧ TabRel M M' :=
  ⟨st, st.macros, st'.macros, rfl, h.1, h.2⟩

theorem StRel.map {st st' : PState} (h : StRel st st') (f : PState → PState) (hf : ∀ s M, f (setM s M) = setM (f s) M) :
    StRel (f st) (f st') := by
  obtain ⟨s, M, M', rfl, rfl, hM⟩ := stRel_cases _ _ h
  rw [hf, hf]
  exact stRel_setM _ _ _ hM

def IncRel (inc inc' : IncludeFn) : Prop :=
  ∀ path incs st st', StRel st st' → OutRel (fun a b => StRel a.1 b.1 ∧ a.2 = b.2) (inc path incs st) (inc' path incs st')

abbrev StepRel (a b : PState × List Str × NextItem) : Prop := StRel a.1 b.1 ∧ a.2 = b.2

theorem frameOut_rel {M M' : List (Str × List (Nat × Str))} (hM : TabRel M M') (r : Out (PState × List Str × NextItem)) :
    OutRel StepRel (frameOut M r) (frameOut M' r) := by
  cases r with
  | ok v => exact ⟨stRel_setM _ _ _ hM, rfl⟩
  | error e => rfl
  | panic p => rfl
  | oof => trivial

theorem directiveParse_rel (inc inc' : IncludeFn) (hinc : IncRel inc inc') (cur : Str) (incs : List Str) (st st' : PState)
    (h : StRel st st') (d : Directive) (ops : DirectiveOps) (ln : Nat) :
    OutRel StepRel (directiveParse inc cur incs st d ops ln) (directiveParse inc' cur incs st' d ops ln) := by
  by_cases hd : d = .include
  · subst hd
    unfold directiveParse
    dsimp only
    -- the operands are a path, and the handlers are asked; or the same error on both sides
    split
    · refine outRel_elim (hinc _ incs st st' h) (fun a b _ _ hab => ⟨hab.1, by rw [hab.2]⟩) (fun e => ?_) (fun _ => rfl) trivial
      dsimp only
      split <;> rfl
    · rfl
  · -- both runs are the run from a common state, framed by their own tables
    obtain ⟨s, M, M', rfl, rfl, hM⟩ := stRel_cases _ _ h
    rw [directiveParse_frame inc cur incs s d ops ln M hd, directiveParse_frame₂ inc inc' cur incs s d ops ln M' hd]
    exact frameOut_rel hM _

theorem stRel_push (st st' : PState) (h : StRel st st') (ln : Nat) (it : Avra.Item) :
    StRel (st.pushToLast ln it) (st'.pushToLast ln it) :=
  h.map (·.pushToLast ln it) fun s M => pushToLast_setM s M ln it

theorem lineStep_rel (inc inc' : IncludeFn) (hinc : IncRel inc inc') (cur : Str) (incs : List Str) (st st' : PState) (h : StRel st st')
    (idx : Nat) (t t' : Str) (re : Bool) (hp : parseLine t = parseLine t') :
    OutRel StepRel (lineStep inc cur incs st idx t re) (lineStep inc' cur incs st' idx t' re) := by
  unfold lineStep
  rw [← hp]
  split
  · trivial
  · rfl
  · rename_i doc o _ _
    cases doc with
    | label name => exact ⟨stRel_push st st' h _ _, rfl⟩
    | codeLine lab op args =>
      cases lab with
      | none => exact ⟨stRel_push st st' h _ _, rfl⟩
      | some n => exact ⟨stRel_push _ _ (stRel_push st st' h _ _) _ _, rfl⟩
    | emptyLine => exact ⟨h, rfl⟩
    | directiveLine lab d ops =>
      cases lab with
      | none =>
        simp only
        split
        · exact ⟨h, rfl⟩
        · exact directiveParse_rel inc inc' hinc cur incs _ _ h d ops (idx + 1)
      | some n =>
        simp only
        split
        · exact ⟨stRel_push st st' h _ _, rfl⟩
        · exact directiveParse_rel inc inc' hinc cur incs _ _ (stRel_push st st' h _ _) d ops (idx + 1)

/-! ### the loop over the lines, relationally -/

theorem bodyRel_append : ∀ (a a' b b' : List (Nat × Str)), BodyRel a a' → BodyRel b b' → BodyRel (a ++ b) (a' ++ b') := by
  intro a a' b b' h hb
  induction h with
  | nil => exact hb
  | cons n l l' x x' hl _ ih => exact .cons n l l' _ _ hl ih

theorem bodyRel_reverse (a a' : List (Nat × Str)) (h : BodyRel a a') : BodyRel a.reverse a'.reverse := by
  induction h with
  | nil => exact .nil
  | cons n l l' x x' hl _ ih =>
    simp only [List.reverse_cons]
    exact bodyRel_append _ _ _ _ ih (.cons n l l' [] [] hl .nil)

/-- `SameB b ls ls'`: line for line the same parse; from a line that opens a macro definition to the
    next line that closes one (`b` = we are in between) the lines are related as body lines -/
inductive SameB : Bool → List (Nat × Str) → List (Nat × Str) → Prop
  | nil (b : Bool) : SameB b [] []
  | out (n : Nat) (l l' : Str) (ls ls' : List (Nat × Str)) :
      parseLine l = parseLine l' → SameB (opensMacro l) ls ls' → SameB false ((n, l) :: ls) ((n, l') :: ls')
  | within (n : Nat) (l l' : Str) (ls ls' : List (Nat × Str)) :
      BodyLineRel l l' → SameB (!closesMacro l) ls ls' → SameB true ((n, l) :: ls) ((n, l') :: ls')

theorem sameB_parse : ∀ (b : Bool) (ls ls' : List (Nat × Str)), SameB b ls ls' → SameDocs ls ls' := by
  intro b ls ls' h
  induction h with
  | nil b => exact .nil
  | out n l l' ls ls' hp _ ih => exact .cons n l l' ls ls' hp ih
  | within n l l' ls ls' hl _ ih => exact .cons n l l' ls ls' (bodyLineRel_parse l l' hl) ih

theorem sameB_of_body : ∀ (ls ls' : List (Nat × Str)), BodyRel ls ls' → ∀ b, SameB b ls ls' := by
  intro ls ls' h
  induction h with
  | nil => intro b; exact .nil b
  | cons n l l' x x' hl _ ih =>
    intro b
    cases b with
    | false => exact .out n l l' x x' (bodyLineRel_parse l l' hl) (ih _)
    | true => exact .within n l l' x x' hl (ih _)

theorem sameB_refl : ∀ (ls : List (Nat × Str)) (b : Bool), SameB b ls ls :=
  fun ls => sameB_of_body ls ls (bodyRel_refl ls)

theorem sameB_tail_mode (b : Bool) (x x' : Nat × Str) (ls ls' : List (Nat × Str))
    (h : SameB b (x :: ls) (x' :: ls')) : ∃ b', SameB b' ls ls' ∧ (opensMacro x.2 = true → b' = true) := by
  cases h with
  | out _ _ _ _ _ _ hs => exact ⟨_, hs, fun h => h⟩
  | within _ l _ _ _ _ hs => exact ⟨_, hs, fun h => by rw [opens_not_closes l h]; rfl⟩

/-! ### second instance of the loop simulation: body lines related by `BodyLineRel`, states by `StRel` -/

theorem modeRel_sameB : ModeRel SameB where
  nil := .nil
  docs := sameB_parse _ _ _
  tail := sameB_tail_mode _ _ _ _ _

theorem skipMacro_rel : ∀ (ls ls' : List (Nat × Str)), SameB true ls ls' → ∀ (acc acc' : List (Nat × Str)), BodyRel acc acc' →
    BodyRel (skipMacro acc ls).1 (skipMacro acc' ls').1 ∧
    SameLine (skipMacro acc ls).2.1 (skipMacro acc' ls').2.1 ∧
    (∃ b, SameB b (skipMacro acc ls).2.2.1 (skipMacro acc' ls').2.2.1 ∧ TailMode (skipMacro acc ls).2.1 b) ∧
    (skipMacro acc ls).2.2.2 = (skipMacro acc' ls').2.2.2 := by
  intro ls ls' h acc acc' hacc
  have := modeRel_sameB.dropped h (skipMacro_drop₀ (sameB_parse _ _ _ h) acc acc')
  exact ⟨modeRel_sameB.body (A := BodyRel) (fun h hacc => by cases h with | within n l l' _ _ hbl hs => exact ⟨hs, .cons n l l' _ _ hbl hacc⟩)
    (bodyRel_reverse _ _) ls ls' h acc acc' hacc, this.1, this.2.2.1, this.2.2.2⟩

abbrev IterRel (a b : PState × List Str) : Prop := StRel a.1 b.1 ∧ a.2 = b.2

theorem modeSim_sameB (inc inc' : IncludeFn) (hinc : IncRel inc inc') (cur : Str) : ModeSim inc inc' cur StRel SameB where
  toModeRel := modeRel_sameB
  body := by
    intro st st' ls ls' hst h
    obtain ⟨s, M, M', rfl, rfl, hM⟩ := stRel_cases _ _ hst
    exact stRel_setM s _ _ (tabRel_ainsert _ _ _ _ _ (skipMacro_rel ls ls' h [] [] .nil).1 hM)
  line := fun incs idx _ _ re hst hp => lineStep_rel inc inc' hinc cur incs _ _ hst idx _ _ re hp

theorem skipCond_sameB (all : Bool) : ∀ (ls ls' : List (Nat × Str)) (b : Bool), SameB b ls ls' → ∀ (d : Nat),
    ∃ b', SameB b' (skipCond all d ls).2.2.1 (skipCond all d ls').2.2.1 ∧ TailMode (skipCond all d ls).1 b' :=
  fun _ _ _ h d => (modeRel_sameB.dropped h (skipCond_drop₀ all (sameB_parse _ _ _ h) d)).2.2.1

theorem parseIterWith_rel (inc inc' : IncludeFn) (hinc : IncRel inc inc') (cur : Str) : ∀ (f : Nat) (incs : List Str) (st st' : PState)
    (ni : NextItem) (ls ls' : List (Nat × Str)) (b : Bool), StRel st st' → SameB b ls ls' → (ni = .endMacro → b = true) →
      OutRel IterRel (parseIterWith inc cur f incs st ni ls) (parseIterWith inc' cur f incs st' ni ls') :=
  fun f incs st st' ni ls ls' b hst hs hni => (modeSim_sameB inc inc' hinc cur).loop f incs st st' ni ls ls' b hst hs hni

/-! ### two file systems whose files are related line by line -/

/-- two texts, line by line: each line parses alike, and from a line that opens a macro definition to
    the next line that closes one the lines are either the same text or parse alike, hold no `@`
    and are no longer than MAX_MACRO_LINE -/
inductive SameLinesB : Bool → List Str → List Str → Prop
  | nil (b : Bool) : SameLinesB b [] []
  | out (l l' : Str) (ls ls' : List Str) : parseLine l = parseLine l' → SameLinesB (opensMacro l) ls ls' →
      SameLinesB false (l :: ls) (l' :: ls')
  | within (l l' : Str) (ls ls' : List Str) : BodyLineRel l l' → SameLinesB (!closesMacro l) ls ls' →
      SameLinesB true (l :: ls) (l' :: ls')

theorem sameLinesB_refl : ∀ (ls : List Str) (b : Bool), SameLinesB b ls ls
  | [], b => .nil b
  | l :: rest, false => .out l l rest rest rfl (sameLinesB_refl rest _)
  | l :: rest, true => .within l l rest rest (Or.inl rfl) (sameLinesB_refl rest _)

theorem zip_sameB : ∀ (b : Bool) (L L' : List Str), SameLinesB b L L' → ∀ k,
    SameB b (List.zip (List.range' k L.length) L) (List.zip (List.range' k L'.length) L') := by
  intro b L L' h
  induction h with
  | nil b => intro k; exact .nil b
  | out l l' ls ls' hp _ ih =>
    intro k
    exact .out k l l' _ _ hp (ih (k + 1))
  | within l l' ls ls' hl _ ih =>
    intro k
    exact .within k l l' _ _ hl (ih (k + 1))

theorem numbered_sameB (b : Bool) (L L' : List Str) (h : SameLinesB b L L') : SameB b (numbered L) (numbered L') := by
  unfold numbered
  rw [List.range_eq_range', List.range_eq_range']
  exact zip_sameB b L L' h 0

theorem sameLinesB_length (b : Bool) (L L' : List Str) (h : SameLinesB b L L') : L.length = L'.length := by
  simpa [numbered] using sameDocs_length (sameB_parse _ _ _ (numbered_sameB b L L' h))

inductive FilesRel : List (Str × Str) → List (Str × Str) → Prop
  | nil : FilesRel [] []
  | cons (k s s' : Str) (m m' : List (Str × Str)) : SameLinesB false (lines s) (lines s') → FilesRel m m' →
      FilesRel ((k, s) :: m) ((k, s') :: m')

theorem filesRel_refl : ∀ m : List (Str × Str), FilesRel m m
  | [] => .nil
  | (k, s) :: rest => .cons k s s rest rest (sameLinesB_refl _ _) (filesRel_refl rest)

theorem filesRel_lookup (k : Str) : ∀ (m m' : List (Str × Str)), FilesRel m m' →
    (alookup k m = none ∧ alookup k m' = none) ∨
    ∃ s s', alookup k m = some s ∧ alookup k m' = some s' ∧ SameLinesB false (lines s) (lines s') := by
  intro m m' h
  induction h with
  | nil => exact Or.inl ⟨rfl, rfl⟩
  | cons k2 s s' m m' hs _ ih =>
    simp only [alookup]
    split
    · exact Or.inr ⟨s, s', rfl, rfl, hs⟩
    · exact ih

/-- two file systems with the same working directory, directories and file names, whose files are
    related line by line -/
def FsRel (fs fs' : Fs) : Prop := fs'.cwd = fs.cwd ∧ fs'.dirs = fs.dirs ∧ FilesRel fs.files fs'.files

theorem fsRel_refl (fs : Fs) : FsRel fs fs := ⟨rfl, rfl, filesRel_refl _⟩

theorem real_go_rel (fs fs' : Fs) (h : FsRel fs fs') : ∀ (cs acc : List Str), Fs.real.go fs' acc cs = Fs.real.go fs acc cs := by
  intro cs
  induction cs with
  | nil => intro acc; rfl
  | cons c cs ih =>
    intro acc
    simp only [Fs.real.go, h.2.1, ih]

theorem real_rel (fs fs' : Fs) (h : FsRel fs fs') (p : Str) : fs'.real p = fs.real p := by
  unfold Fs.real
  simp only [h.1, real_go_rel fs fs' h]

theorem isDir_rel (fs fs' : Fs) (h : FsRel fs fs') (p : Str) : fs'.isDir p = fs.isDir p := by
  unfold Fs.isDir
  rw [real_rel fs fs' h, h.2.1]

theorem isFile_rel (fs fs' : Fs) (h : FsRel fs fs') (p : Str) : fs'.isFile p = fs.isFile p := by
  unfold Fs.isFile
  rw [real_rel fs fs' h]
  cases fs.real p with
  | none => rfl
  | some q =>
    simp only
    rcases filesRel_lookup q _ _ h.2.2 with ⟨h1, h2⟩ | ⟨s, s', h1, h2, _⟩ <;> rw [h1, h2] <;> rfl

theorem exists_rel (fs fs' : Fs) (h : FsRel fs fs') (p : Str) : fs'.exists p = fs.exists p := by
  unfold Fs.exists
  rw [isFile_rel fs fs' h, isDir_rel fs fs' h]

theorem read_rel (fs fs' : Fs) (h : FsRel fs fs') (p : Str) :
    (fs.read p = none ∧ fs'.read p = none) ∨
    ∃ s s', fs.read p = some s ∧ fs'.read p = some s' ∧ SameLinesB false (lines s) (lines s') := by
  unfold Fs.read
  rw [real_rel fs fs' h]
  cases fs.real p with
  | none => exact Or.inl ⟨rfl, rfl⟩
  | some q => exact filesRel_lookup q _ _ h.2.2

theorem resolvePath_rel (fs fs' : Fs) (h : FsRel fs fs') (path : Str) (incs : List Str) :
    resolvePath fs' path incs = resolvePath fs path incs := by
  unfold resolvePath
  simp only [exists_rel fs fs' h]

theorem parseFileAt_rel (fs fs' : Fs) (hfs : FsRel fs fs') : ∀ d, IncRel (parseFileAt fs d) (parseFileAt fs' d) := by
  intro d
  induction d with
  | zero => intro path incs st st' h; rfl
  | succ d ih =>
    intro path incs st st' h
    unfold parseFileAt
    dsimp only
    rw [resolvePath_rel fs fs' hfs, isDir_rel fs fs' hfs]
    rcases read_rel fs fs' hfs (resolvePath fs path incs) with ⟨h1, h2⟩ | ⟨src, src', h1, h2, hl⟩
    · rw [h1, h2]
      simp only
      split <;> rfl
    · rw [h1, h2]
      simp only
      have hs := numbered_sameB false _ _ hl
      rw [sameLinesB_length _ _ _ hl]
      exact outRel_elim (parseIterWith_rel (parseFileAt fs d) (parseFileAt fs' d) ih (resolvePath fs path incs) ((lines src').length + 1)
        _ st st' .newLine (numbered (lines src)) (numbered (lines src')) false h hs nofun)
        (fun a b _ _ hab => ⟨hab.1, by rw [hab.2]⟩) (fun _ => rfl) (fun _ => rfl) trivial

/-- the loop as the code calls it (`parseIter` fixes the iteration bound from the text) -/
theorem parseIter_rel (fs fs' : Fs) (hfs : FsRel fs fs') (cur : Str) (incs : List Str) (st st' : PState) (ni : NextItem)
    (ls ls' : List (Nat × Str)) (b : Bool) (hst : StRel st st') (hs : SameB b ls ls') (hni : ni = .endMacro → b = true) :
    OutRel IterRel (parseIter fs cur incs st ni ls) (parseIter fs' cur incs st' ni ls') := by
  unfold parseIter
  rw [sameDocs_length (sameB_parse _ _ _ hs)]
  exact parseIterWith_rel _ _ (parseFileAt_rel fs fs' hfs _) cur _ incs st st' ni ls ls' b hst hs hni

/-! ### pass 0 : the expansion of related bodies -/

theorem replaceAll_noAt (ds rep : Str) : ∀ (f : Nat) (s : Str), '@' ∉ s → replaceAll ('@' :: ds) rep f s = s := by
  intro f
  induction f with
  | zero => intro s _; cases s <;> rfl
  | succ f ih =>
    intro s hs
    cases s with
    | nil => rfl
    | cons c cs =>
      have hc : ¬ '@' = c := fun h => hs (by rw [← h]; exact List.mem_cons_self)
      have hcs : '@' ∉ cs := fun h => hs (List.mem_cons_of_mem _ h)
      simp only [replaceAll, List.isEmpty_cons, Bool.false_eq_true, if_false, Peg.lit, if_neg hc]
      rw [ih cs hcs]

theorem substArgs_noAt (args : List Str) (l : Str) (h : '@' ∉ l) : substArgs args l = l := by
  have : ∀ (args : List Str) (i : Nat) (l : Str), '@' ∉ l → substArgs.go i args l = l := by
    intro args
    induction args with
    | nil => intro i l _; rfl
    | cons a more ih =>
      intro i l hl
      simp only [substArgs.go]
      rw [replaceAll_noAt _ _ _ _ hl]
      exact ih _ _ hl
  exact this args 0 l h

def substBody (ops : List IOp) (body : List (Nat × Str)) : List (Nat × Str) :=
  if ops.isEmpty then body else body.map fun x => (x.1, substArgs (ops.map iopText) x.2)

def longLine (x : Nat × Str) : Bool := decide ((utf8 x.2).length > macroLine)

def innerState (st : PState) : PState :=
  { ctx := st.ctx, segments := [{ items := [], t := .code, address := st.lastSeg.address }],
    macros := st.macros, macroName := st.macroName, messages := st.messages }

theorem bodyRel_subst (ops : List IOp) (b b' : List (Nat × Str)) (h : BodyRel b b') : BodyRel (substBody ops b) (substBody ops b') := by
  unfold substBody
  split
  · exact h
  · induction h with
    | nil => exact .nil
    | cons n l l' x x' hl _ ih =>
      refine .cons n _ _ _ _ ?_ ih
      rcases hl with rfl | ⟨hp, ha, ha', hlen, hlen'⟩
      · exact Or.inl rfl
      · rw [substArgs_noAt _ _ ha, substArgs_noAt _ _ ha']
        exact Or.inr ⟨hp, ha, ha', hlen, hlen'⟩

theorem bodyRel_long (b b' : List (Nat × Str)) (h : BodyRel b b') : b.any longLine = b'.any longLine := by
  induction h with
  | nil => rfl
  | cons n l l' x x' hl _ ih =>
    simp only [List.any_cons, ih]
    congr 1
    rcases hl with rfl | ⟨hp, ha, ha', hlen, hlen'⟩
    · rfl
    · simp only [longLine, gt_iff_lt, decide_eq_decide]
      omega

abbrev ExpRel (a b : PState × List Segment) : Prop := StRel a.1 b.1 ∧ a.2 = b.2

theorem macroExpand_rel (fs fs' : Fs) (hfs : FsRel fs fs') (M M' : List (Str × List (Nat × Str))) (hM : TabRel M M') (st st' : PState)
    (hst : StRel st st') (ln : Nat) (name : Str) (ops : List IOp) :
    OutRel ExpRel (macroExpand fs M st ln name ops) (macroExpand fs' M' st' ln name ops) := by
  unfold macroExpand
  rcases tabRel_lookup name M M' hM with ⟨h1, h2⟩ | ⟨b, b', h1, h2, hb⟩
  · rw [h1, h2]; rfl
  · rw [h1, h2]
    have hsb := bodyRel_subst ops b b' hb
    -- the model's anonymous functions under the names the lemmas about them use
    show OutRel ExpRel (if !ops.isEmpty ∧ (substBody ops b).any longLine then _ else _)
      (if !ops.isEmpty ∧ (substBody ops b').any longLine then _ else _)
    rw [bodyRel_long _ _ hsb]
    split
    · rfl
    · dsimp only
      refine outRel_elim (parseIter_rel fs fs' hfs [] [] _ _ .newLine _ _ false (hst.map innerState fun _ _ => rfl)
        (sameB_of_body _ _ hsb _) nofun) (fun a b _ _ hab => ?_) (fun _ => rfl) (fun _ => rfl) trivial
      -- what the expansion hands back: the macro table of the inner state, the rest from the outer one
      obtain ⟨hi, hN⟩ := hab.1
      dsimp only at hi ⊢
      rw [hi, hst.1]
      exact ⟨⟨rfl, hN⟩, rfl⟩

/-- two expanders of one macro-nesting level deeper that respect the relation -/
def InnerRel (inner inner' : PState → List (Nat × Avra.Item) → Out PState) : Prop :=
  ∀ st st' its, StRel st st' → OutRel StRel (inner st its) (inner' st' its)

theorem stRel_addSegment (st st' : PState) (h : StRel st st') (sg : Segment) : StRel (st.addSegment sg) (st'.addSegment sg) :=
  h.map (·.addSegment sg) fun _ _ => rfl

theorem stRel_lastSeg (st st' : PState) (h : StRel st st') : st'.lastSeg = st.lastSeg := by
  rw [h.1]; rfl

theorem pass0Segs_rel (inner inner' : PState → List (Nat × Avra.Item) → Out PState) (hin : InnerRel inner inner') :
    ∀ (segs : List Segment) (st st' : PState), StRel st st' → OutRel StRel (pass0Segs inner st segs) (pass0Segs inner' st' segs) := by
  intro segs
  induction segs with
  | nil => intro st st' h; exact h
  | cons sg more ih =>
    intro st st' h
    simp only [pass0Segs]
    split
    · exact outRel_elim (hin _ _ sg.items (stRel_addSegment st st' h { items := [], t := sg.t, address := sg.address }))
        (fun a b _ _ hab => ih _ _ hab) (fun _ => rfl) (fun _ => rfl) trivial
    · exact ih _ _ (stRel_addSegment st st' h sg)

theorem pass0Items_rel (fs fs' : Fs) (hfs : FsRel fs fs') (M M' : List (Str × List (Nat × Str))) (hM : TabRel M M') (allow : Bool)
    (inner inner' : PState → List (Nat × Avra.Item) → Out PState) (hin : InnerRel inner inner') :
    ∀ (its : List (Nat × Avra.Item)) (st st' : PState), StRel st st' →
      OutRel StRel (pass0Items fs M allow inner st its) (pass0Items fs' M' allow inner' st' its) := by
  intro its
  induction its with
  | nil => intro st st' h; exact h
  | cons x rest ih =>
    intro st st' h
    obtain ⟨ln, it⟩ := x
    simp only [pass0Items]
    split
    · rename_i name ops
      split
      · rfl
      · refine outRel_elim (macroExpand_rel fs fs' hfs M M' hM st st' h ln name ops) (fun a b _ _ hr => ?_)
          (fun _ => rfl) (fun _ => rfl) trivial
        obtain ⟨s1, segs⟩ := a
        obtain ⟨s1', segs'⟩ := b
        obtain ⟨hs1, hsg⟩ := hr
        subst hsg
        cases segs with
        | nil => exact ih _ _ hs1
        | cons s0 more =>
          simp only
          rw [stRel_lastSeg s1 s1' hs1]
          have hs2 := hs1.map (fun s => if s0.address ≠ s1.lastSeg.address ∨ s0.t ≠ s1.lastSeg.t
            then s.addSegment { items := [], t := s0.t, address := s0.address } else s) fun _ _ => by split <;> rfl
          refine outRel_elim (hin _ _ s0.items hs2) (fun a2 b2 _ _ hr2 => ?_) (fun _ => rfl) (fun _ => rfl) trivial
          simp only
          exact outRel_elim (pass0Segs_rel inner inner' hin more a2 b2 hr2) (fun _ _ _ _ hr3 => ih _ _ hr3)
            (fun _ => rfl) (fun _ => rfl) trivial
    · exact ih _ _ (stRel_push st st' h ln it)

theorem pass0At_rel (fs fs' : Fs) (hfs : FsRel fs fs') (M M' : List (Str × List (Nat × Str))) (hM : TabRel M M') :
    ∀ d, InnerRel (pass0At fs M d) (pass0At fs' M' d) := by
  intro d
  induction d with
  | zero =>
    intro st st' its h
    exact pass0Items_rel fs fs' hfs M M' hM false (fun _ _ => .oof) (fun _ _ => .oof) (fun _ _ _ _ => trivial) its st st' h
  | succ d ih =>
    intro st st' its h
    exact pass0Items_rel fs fs' hfs M M' hM true _ _ ih its st st' h

theorem pass0_rel (fs fs' : Fs) (hfs : FsRel fs fs') (st st' : PState) (h : StRel st st') :
    OutRel StRel (pass0 fs st.asParseResult st.ctx) (pass0 fs' st'.asParseResult st'.ctx) := by
  obtain ⟨s, M, M', rfl, rfl, hM⟩ := stRel_cases _ _ h
  rw [pass0_segs, pass0_segs]
  exact pass0Segs_rel _ _ (pass0At_rel fs fs' hfs M M' hM macroDepth) _ _ _ (stRel_refl _)

/-- the rest of the build does not look at the macro table -/
theorem buildFromParsed_rel (fs fs' : Fs) (hfs : FsRel fs fs') (st st' : PState) (h : StRel st st') :
    buildFromParsed fs st = buildFromParsed fs' st' := by
  unfold buildFromParsed
  refine outRel_elim (pass0_rel fs fs' hfs st st' h) (fun a b _ _ hr => ?_) (fun _ => rfl) (fun _ => rfl) rfl
  rw [hr.1]
  rfl

theorem parseStr_rel (fs fs' : Fs) (hfs : FsRel fs fs') (src src' : Str) (ctx : Ctx) (h : SameLinesB false (lines src) (lines src')) :
    OutRel StRel (parseStr fs src ctx) (parseStr fs' src' ctx) := by
  unfold parseStr
  rw [hfs.1]
  exact outRel_elim (parseIter_rel fs fs' hfs fs.cwd [] _ _ .newLine _ _ false (stRel_refl _) (numbered_sameB false _ _ h) nofun)
    (fun _ _ _ _ hr => hr.1) (fun _ => rfl) (fun _ => rfl) trivial

theorem parseFile_rel (fs fs' : Fs) (hfs : FsRel fs fs') (path : Str) (incs : List Str) (ctx : Ctx) :
    OutRel StRel (parseFile fs path incs ctx) (parseFile fs' path incs ctx) := by
  unfold parseFile
  exact outRel_elim (parseFileAt_rel fs fs' hfs (includeDepth + 1) path (incs.foldl (fun acc p => pathsInsert p acc) [])
    (PState.init ctx) (PState.init ctx) (stRel_refl _)) (fun _ _ _ _ hr => hr.1) (fun _ => rfl) (fun _ => rfl) trivial

/-- `build_str` over two related file systems, so that the text may include (related) files;
    `build_same_macro_bodies` is the case `fs' = fs` -/
theorem build_str_same (fs fs' : Fs) (hfs : FsRel fs fs') (src src' : Str) (h : SameLinesB false (lines src) (lines src')) :
    buildStr fs src = buildStr fs' src' := by
  unfold buildStr
  exact outRel_elim (parseStr_rel fs fs' hfs src src' initCtx h)
    (fun _ _ _ _ hr => buildFromParsed_rel fs fs' hfs _ _ hr) (fun _ => rfl) (fun _ => rfl) rfl

/-- **C14 at the level of the build, macro bodies included**: any line outside a macro body may be
    replaced by a line that parses to the same thing; a line of a macro body may be replaced by a
    line that parses to the same thing when neither holds an `@` (nothing is pasted into it) and
    neither is longer than MAX_MACRO_LINE; `build_str` gives exactly the same result, although the
    bodies are stored as text and parsed again at every call, in every nesting -/
theorem build_same_macro_bodies (fs : Fs) (src src' : Str) (h : SameLinesB false (lines src) (lines src')) :
    buildStr fs src = buildStr fs src' :=
  build_str_same fs fs (fsRel_refl fs) src src' h

/-- **the same for `build_file`, included files included**: in two file systems with the same
    directories and the same file names, whose files are related line by line in the way above
    (the main file and every file it includes, at any depth, found over any include path),
    `build_file` gives exactly the same result -/
theorem build_file_same (fs fs' : Fs) (hfs : FsRel fs fs') (path : Str) (incs : List Str) :
    buildFile fs path incs = buildFile fs' path incs := by
  unfold buildFile
  exact outRel_elim (parseFile_rel fs fs' hfs path incs initCtx)
    (fun _ _ _ _ hr => buildFromParsed_rel fs fs' hfs _ _ hr) (fun _ => rfl) (fun _ => rfl) rfl

/-- keeping the bodies as they are is a special case -/
theorem sameLinesB_of_M : ∀ (b : Bool) (L L' : List Str), SameLinesM b L L' → SameLinesB b L L' := by
  intro b L L' h
  induction h with
  | nil b => exact .nil b
  | out l l' ls ls' hp _ ih => exact .out l l' ls ls' hp ih
  | within l ls ls' _ ih => exact .within l l ls ls' (Or.inl rfl) ih


/-- **C14 at the level of the build, programs with macros included**: outside the macro bodies
    (from a line that opens a macro definition to the next line that closes one the text is kept
    as it is) any line may be replaced by a line that parses to the same thing, and `build_str`
    gives exactly the same result -/
theorem build_same_outside_macro_bodies (fs : Fs) (src src' : Str) (h : SameLinesM false (lines src) (lines src')) :
    buildStr fs src = buildStr fs src' :=
  build_same_macro_bodies fs src src' (sameLinesB_of_M _ _ _ h)

theorem sameLinesM_of_noMacroDef : ∀ (L L' : List Str), SameLines L L' → (∀ l ∈ L, opensMacro l = false) → SameLinesM false L L' := by
  intro L L' h
  induction h with
  | nil => intro _; exact .nil _
  | cons l l' ls ls' hp _ ih =>
    intro hno
    refine .out l l' ls ls' hp ?_
    rw [hno l List.mem_cons_self]
    exact ih fun x hx => hno x (List.mem_cons_of_mem _ hx)

/-- **C14 at the level of the build**: a program without macro definitions may have any of its
    lines replaced by a line that parses to the same thing — other blanks, another comment or none,
    another spelling of a number, of a mnemonic, of a register — and builds to exactly the same
    result (images, sizes, messages, or the same error).  Which replacements parse to the same
    thing is what the whole-line theorems of Props/C14.lean, C14x.lean and C05pp.lean establish. -/
theorem build_same (fs : Fs) (src src' : Str) (h : SameLines (lines src) (lines src'))
    (hnm : NoMacroDef (numbered (lines src))) : buildStr fs src = buildStr fs src' := by
  refine build_same_outside_macro_bodies fs src src' (sameLinesM_of_noMacroDef _ _ h fun l hl => ?_)
  have hn : (numbered (lines src)).map Prod.snd = lines src := List.map_snd_zip (by simp)
  rw [← hn] at hl
  obtain ⟨x, hx, rfl⟩ := List.mem_map.mp hl
  have := hnm x hx
  unfold opensMacro
  split
  · rename_i lab d ops o heq
    exact decide_eq_false fun hd => this lab ops o (hd ▸ heq)
  · rfl

/-- line by line related as body lines (the same text, or the same parse without `@` and short) -/
inductive AllLines : List Str → List Str → Prop
  | nil : AllLines [] []
  | cons (l l' : Str) (ls ls' : List Str) : BodyLineRel l l' → AllLines ls ls' → AllLines (l :: ls) (l' :: ls')

theorem sameLinesB_of_all : ∀ (L L' : List Str), AllLines L L' → ∀ b, SameLinesB b L L' := by
  intro L L' h
  induction h with
  | nil => intro b; exact .nil b
  | cons l l' ls ls' hl _ ih =>
    intro b
    cases b with
    | false => exact .out l l' ls ls' (bodyLineRel_parse l l' hl) (ih _)
    | true => exact .within l l' ls ls' hl (ih _)

/-- **in the property's words**: replace every line of a program — inside macro definitions or not —
    by a line that parses to the same thing, holds no `@` and is not longer than MAX_MACRO_LINE
    (or leave it as it is): `build_str` gives exactly the same result, whatever the program does
    with those lines (conditionals, macro definitions and calls in any nesting, included files) -/
theorem build_same_every_line (fs : Fs) (src src' : Str) (h : AllLines (lines src) (lines src')) :
    buildStr fs src = buildStr fs src' :=
  build_same_macro_bodies fs src src' (sameLinesB_of_all _ _ h false)

/-! ### the premises can be met: a real program whose macro body is respelled -/

instance (l l' : Str) : Decidable (BodyLineRel l l') := inferInstanceAs (Decidable (_ ∨ _))

def sameLinesB? : Bool → List Str → List Str → Bool
  | _, [], [] => true
  | false, l :: ls, l' :: ls' => decide (parseLine l = parseLine l') && sameLinesB? (opensMacro l) ls ls'
  | true, l :: ls, l' :: ls' => decide (BodyLineRel l l') && sameLinesB? (!closesMacro l) ls ls'
  | _, _, _ => false

theorem sameLinesB_of_check : ∀ (b : Bool) (L L' : List Str), sameLinesB? b L L' = true → SameLinesB b L L'
  | b, [], [], _ => .nil b
  | false, l :: ls, l' :: ls', h => by
    simp only [sameLinesB?, Bool.and_eq_true, decide_eq_true_eq] at h
    exact .out l l' ls ls' h.1 (sameLinesB_of_check _ _ _ h.2)
  | true, l :: ls, l' :: ls', h => by
    simp only [sameLinesB?, Bool.and_eq_true, decide_eq_true_eq] at h
    exact .within l l' ls ls' h.1 (sameLinesB_of_check _ _ _ h.2)

example (fs : Fs) :
    buildStr fs ".macro m\n ldi r16,1 ; c\n.endm\nm\n".toList =
    buildStr fs ".macro  m\nLDI R16 , 0x01\n.endm ; end\n m // call\n".toList :=
  build_same_macro_bodies _ _ _ (sameLinesB_of_check _ _ _ (by decide +kernel))

/-! ### the premises can be met across files: a main file and the file it includes, both respelled -/

def fsA : Fs where
  cwd := "/w".toList
  dirs := ["/w".toList]
  files := [("/w/main.asm".toList, ".include \"d.inc\"\n ldi r16,K ; c\n".toList),
            ("/w/d.inc".toList, ".equ K = 1\n".toList)]

def fsB : Fs where
  cwd := "/w".toList
  dirs := ["/w".toList]
  files := [("/w/main.asm".toList, ".include \"d.inc\" // x\nLDI R16 , K\n".toList),
            ("/w/d.inc".toList, ".equ K=0x01 ; one\n".toList)]

theorem fsAB : FsRel fsA fsB :=
  ⟨rfl, rfl, .cons _ _ _ _ _ (sameLinesB_of_check _ _ _ (by decide +kernel))
    (.cons _ _ _ _ _ (sameLinesB_of_check _ _ _ (by decide +kernel)) .nil)⟩

example : buildFile fsA "main.asm".toList [] = buildFile fsB "main.asm".toList [] :=
  build_file_same fsA fsB fsAB _ _

/-- and the build in question is a real one: `ldi r16, 1` = 0xE001 -/
example : (match buildFile fsA "main.asm".toList [] with | .ok r => r.code | _ => []) = [0x01, 0xE0] := by decide +kernel

end Avra.Props.C14
