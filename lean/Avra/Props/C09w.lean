/-
  C09, towards "the text pasted for an expression argument reads back as that expression": what
  the parser lemmas of C05pp need — which characters start and end an operand, the operator tables
  checked entry by entry (`checkOp`, `checkUn`), and that what the parser returns is well-formed
  (`Wf`, `expr_wf`).  The read-back theorems themselves follow from C05pp and stand in
  Props/C09r.lean; the steps of macro handling are in Props/C09.lean.
-/
import Avra.Model.Build
import Avra.Props.C14
namespace Avra.Props.C09
open Avra.Model Avra.Peg Avra.Lemmas.Fuel Avra.Props.C14

/-- characters an operand text can start with -/
def StartChar (y : Char) : Prop :=
  isIdentStart y = true ∨ isDigit y = true ∨ y = '(' ∨ y = '-' ∨ y = '~' ∨ y = '!' ∨ y = '$' ∨ y = '\''

/-- operator characters that start no operand -/
def nonStart (y : Char) : Prop := y = '<' ∨ y = '=' ∨ y = '>' ∨ y = '|' ∨ y = '&'

/-- `t` is tried before the operator text `o` is reached; it must not win: it mismatches inside
    `o`, or it is `o` plus one non-start character, or it is a proper prefix of `o` whose
    continuation is a non-start character -/
def okBefore : Str → Str → Bool
  | [], [] => false
  | [], y :: _ => y == '<' || y == '=' || y == '>' || y == '|' || y == '&'
  | [d], [] => d == '<' || d == '=' || d == '>' || d == '|' || d == '&'
  | _ :: _ :: _, [] => false
  | p :: ps, c :: cs => if p = c then okBefore ps cs else true

theorem startChar_not_nonStart (c : Char) (hc : StartChar c) : ¬ nonStart c := by
  unfold StartChar at hc; unfold nonStart; char_arith

theorem nonStart_iff (y : Char) : (y == '<' || y == '=' || y == '>' || y == '|' || y == '&') = true ↔ nonStart y := by
  simp [nonStart, or_assoc]

theorem lit_beforeB (t : Str) : ∀ (o : Str), okBefore t o = true → ∀ (c : Char) (rest : Str), ¬ nonStart c →
    lit t (o ++ c :: rest) = none ∨ ∃ y ys, lit t (o ++ c :: rest) = some (y :: ys) ∧ nonStart y := by
  induction t with
  | nil =>
    intro o h c rest hc
    cases o with
    | nil => simp [okBefore] at h
    | cons y ys => exact Or.inr ⟨y, ys ++ c :: rest, by simp [lit], (nonStart_iff y).1 h⟩
  | cons p ps ih =>
    intro o h c rest hc
    cases o with
    | nil =>
      cases ps with
      | nil =>
        have : p ≠ c := by rintro rfl; exact hc ((nonStart_iff p).1 h)
        exact Or.inl (by simp [lit, this])
      | cons q qs => simp [okBefore] at h
    | cons y ys =>
      simp only [okBefore] at h
      by_cases hpy : p = y
      · subst hpy
        simp only [if_true] at h
        simpa [lit] using ih ys h c rest hc
      · exact Or.inl (by simp [lit, hpy])

theorem lit_before (t : Str) : ∀ (o : Str), okBefore t o = true → ∀ (c : Char) (rest : Str), StartChar c →
    lit t (o ++ c :: rest) = none ∨ ∃ y ys, lit t (o ++ c :: rest) = some (y :: ys) ∧ nonStart y :=
  fun o h c rest hc => lit_beforeB t o h c rest (startChar_not_nonStart c hc)

abbrev Ent := Str × BinOp × Nat × Nat

/-- `splitOp` and `splitUn` are this search: the first entry with the key `b`, what stands before it and what behind -/
theorem split_spec {α β : Type} [DecidableEq β] (key : α → β) (b : β) (sp : List α → Option (List α × α × List α))
    (h0 : sp [] = none)
    (h1 : ∀ x xs, sp (x :: xs) = if key x = b then some ([], x, xs) else (sp xs).map fun r => (x :: r.1, r.2.1, r.2.2))
    (l : List α) : ∀ (pre : List α) (e : α) (post : List α), sp l = some (pre, e, post) → l = pre ++ e :: post ∧ key e = b := by
  induction l with
  | nil => intro _ _ _ h; rw [h0] at h; cases h
  | cons x xs ih =>
    intro pre e post h
    rw [h1] at h
    split at h
    · cases h; exact ⟨rfl, ‹_›⟩
    · obtain ⟨⟨p, e', q⟩, hs, heq⟩ := Option.map_eq_some_iff.1 h
      cases heq
      exact (ih p e' q hs).imp_left fun hl => by rw [hl]; rfl

def splitOp (op : BinOp) : List Ent → Option (List Ent × Ent × List Ent)
  | [] => none
  | x :: xs =>
    if x.2.1 = op then some ([], x, xs)
    else (splitOp op xs).map fun r => (x :: r.1, r.2.1, r.2.2)

theorem splitOp_spec (op : BinOp) : ∀ (l pre : List Ent) (e : Ent) (post : List Ent),
    splitOp op l = some (pre, e, post) → l = pre ++ e :: post ∧ e.2.1 = op :=
  split_spec (·.2.1) op (splitOp op) rfl fun _ _ => rfl

/-- the (regenerated) operator table, checked once per operator: the operator has an entry with
    its own text, left-associative, and every entry scanned before it cannot win -/
def checkOp (op : BinOp) : Bool :=
  match splitOp op infixOps with
  | some (pre, e, _) => e.1 == op.text && e.2.2.2 == e.2.2.1 + 1 && pre.all fun x => okBefore x.1 op.text
  | none => false

theorem table_checked : ∀ op : BinOp, checkOp op = true := by
  intro op; cases op <;> decide +kernel

theorem tryInfix_skip (m : Nat) (e : Expr) (s0 s : Str) :
    ∀ (pre : List Ent), (∀ x ∈ pre, lit x.1 (skipSpace s) = none ∨
        ∃ y ys, lit x.1 (skipSpace s) = some (y :: ys) ∧ noStart y ∧ isSpace y = false) →
      ∀ (tail : List Ent) (f : Nat), (s.length + 1) * K ≤ f →
        tryInfix (f + pre.length) m (pre ++ tail) e s0 s = tryInfix f m tail e s0 s :=
  fun pre hl => tryInfix_pass m e s0 s pre fun x hx => Or.inr (hl x hx)

theorem prefixAtom_atom (s : Str) (hs : ∀ x ∈ prefixOps, lit x.1 s = none) (f : Nat) :
    parsePrefixAtom (f + prefixOps.length + 2) s = parseAtom f s :=
  tryPrefix_through s prefixOps hs f

def need (s : Str) : Nat := (s.length + 2) * K

/-! #### the expressions the parser produces, and their texts -/

/-- expressions as the parser builds them: names are identifiers, constants are not negative and
    below 2^63 (what `e_const` accepts), functions are called by name -/
inductive Wf : Expr → Prop
  | ident (s : Str) : isName s → Wf (.ident s)
  | const (v : Int) (n : Nat) : v = (n : Int) → n < 2 ^ 63 → Wf (.const v)
  | func (name : Str) (a : Expr) : isName name → Wf a → Wf (.func (.ident name) a)
  | bin (op : BinOp) (l r : Expr) : Wf l → Wf r → Wf (.bin op l r)
  | un (u : UnOp) (e : Expr) : Wf e → Wf (.un u e)

def AtomEnd (rest : Str) : Prop := ∀ y, rest.head? = some y → isIdentChar y = false ∧ y ≠ '(' ∧ isSpace y = false

theorem atomEnd_paren (rest : Str) : AtomEnd (')' :: rest) := by
  intro y hy; simp at hy; subst hy; decide

theorem op_text_head (op : BinOp) : ∃ y ∈ opChars, ∃ ys, op.text = y :: ys := by
  cases op <;> exact ⟨_, by decide, _, rfl⟩

theorem atomEnd_op (op : BinOp) (rest : Str) : AtomEnd (op.text ++ rest) := by
  obtain ⟨y, hy, ys, ht⟩ := op_text_head op
  intro z hz
  rw [ht] at hz; simp at hz; subst hz
  exact ⟨(opChars_class _ hy).1, (opChars_class _ hy).2.2, (opChars_class _ hy).2.1⟩

theorem startChar_noSpace (y : Char) (h : StartChar y) : isSpace y = false := by
  unfold StartChar at h; char_arith

def Reads (e : Expr) : Prop :=
  ∀ rest, AtomEnd rest → ∀ f, need (exprText e ++ rest) ≤ f + 1 → parsePrefixAtom f (exprText e ++ rest) = .ok e rest

abbrev PEnt := Str × UnOp × Nat

def splitUn (u : UnOp) : List PEnt → Option (List PEnt × PEnt × List PEnt)
  | [] => none
  | x :: xs =>
    if x.2.1 = u then some ([], x, xs)
    else (splitUn u xs).map fun r => (x :: r.1, r.2.1, r.2.2)

theorem splitUn_spec (u : UnOp) : ∀ (l pre : List PEnt) (e : PEnt) (post : List PEnt),
    splitUn u l = some (pre, e, post) → l = pre ++ e :: post ∧ e.2.1 = u :=
  split_spec (·.2.1) u (splitUn u) rfl fun _ _ => rfl

/-- checked once per prefix operator: it has an entry with its own one-character text, the
    entries before it start differently, and its operand level is above every infix operator -/
def checkUn (u : UnOp) : Bool :=
  match splitUn u prefixOps with
  | some (pre, e, _) => e.1 == u.text && u.text.length == 1 &&
      (pre.all fun x => x.1.length == 1 && x.1 != u.text) && infixOps.all fun x => x.2.2.1 < e.2.2
  | none => false

theorem un_checked : ∀ u : UnOp, checkUn u = true := by
  intro u; cases u <;> decide +kernel

theorem lit_other {t o : Str} (ht : t.length = 1) (ho : o.length = 1) (h : t ≠ o) (s : Str) : lit t (o ++ s) = none := by
  obtain ⟨d, rfl⟩ := List.length_eq_one_iff.1 ht
  obtain ⟨c, rfl⟩ := List.length_eq_one_iff.1 ho
  have : d ≠ c := fun hdc => h (by rw [hdc])
  simp [lit, this]

theorem un_split (u : UnOp) : ∃ pre lv post, prefixOps = pre ++ (u.text, u, lv) :: post ∧
    (∀ x ∈ pre, ∀ s, lit x.1 (u.text ++ s) = none) ∧ ∀ x ∈ infixOps, x.2.2.1 < lv := by
  have h := un_checked u
  unfold checkUn at h
  split at h
  · rename_i pre e post hs
    obtain ⟨hl, he⟩ := splitUn_spec u _ _ _ _ hs
    obtain ⟨t, b, lv⟩ := e
    simp only [Bool.and_eq_true, beq_iff_eq, List.all_eq_true, decide_eq_true_eq, bne_iff_ne] at h
    obtain ⟨⟨⟨h1, h2⟩, h3⟩, h4⟩ := h
    simp only at he h1
    subst he; subst h1
    exact ⟨pre, lv, post, hl, fun x hx => lit_other (h3 x hx).1 h2 (h3 x hx).2, h4⟩
  · simp at h

theorem nonStart_noStart (y : Char) (h : nonStart y) : noStart y ∧ isSpace y = false := by
  rcases h with rfl | rfl | rfl | rfl | rfl <;> exact ⟨by simp [noStart], by decide⟩

/-! non-vacuity: `(1<<(k+3))`, the text pasted for the argument `1 << (k + 3)` -/
example : Wf (.bin .shl (.const 1) (.bin .add (.ident ['k']) (.const 3))) :=
  .bin _ _ _ (.const 1 1 rfl (by decide))
    (.bin _ _ _ (.ident _ (isName_cons (by decide))) (.const 3 3 rfl (by decide)))
example : exprText (.bin .shl (.const 1) (.bin .add (.ident ['k']) (.const 3))) = "(1<<(k+3))".toList := by decide

/-! ### every expression the parser returns is well-formed -/

theorem takeWhileP_all (p : Char → Bool) (s : Str) : ∀ c ∈ (takeWhileP p s).1, p c = true := by
  rw [takeWhileP_eq]; exact fun c hc => List.all_eq_true.1 List.all_takeWhile c hc

theorem identText_isName (s n r : Str) (h : identText s = some (n, r)) : isName n := by
  unfold identText at h
  split at h
  · rename_i c cs
    split at h
    · rename_i hc
      obtain ⟨rfl, _⟩ := h
      exact ⟨c, _, rfl, hc, takeWhileP_all isIdentChar cs⟩
    · simp at h
  · simp at h

theorem constAlt_range (pre : Str) (cls : Char → Bool) (radix : Nat) (s : Str) (v : Int) (r : Str)
    (h : constAlt pre cls radix s = some (v, r)) : ∃ n : Nat, v = (n : Int) ∧ n < 2 ^ 63 := by
  unfold constAlt at h
  split at h
  · simp at h
  · dsimp only at h
    split at h
    · simp at h
    · split at h
      · rename_i hlt
        simp only [Option.some.injEq, Prod.mk.injEq] at h
        exact ⟨_, h.1.symm, hlt⟩
      · simp at h

theorem eConst_range (s : Str) (v : Int) (r : Str) (h : eConst s = some (v, r)) : ∃ n : Nat, v = (n : Int) ∧ n < 2 ^ 63 :=
  let ⟨_, _, _, h⟩ := eConst_alt h
  constAlt_range _ _ _ _ _ _ h

theorem char_range (c : Char) : c.toNat < 2 ^ 63 := by
  have := c.valid
  have h : c.toNat < 0x110000 := by
    rcases this with h | ⟨_, h⟩
    · have : c.toNat < 0xd800 := h
      omega
    · exact h
  omega

theorem closed_wf : Closed fun _ e _ => Wf e where
  leaf := fun {s e r} hl => by
    rcases leafAlt_ok hl with ⟨v, hc, rfl⟩ | ⟨c, _, rfl⟩ | ⟨n, hc, rfl⟩
    · obtain ⟨n, hv, hn⟩ := eConst_range _ _ _ hc
      exact .const v n hv hn
    · exact .const _ c.toNat rfl (char_range c)
    · exact .ident n (identText_isName _ _ _ hc)
  call := fun hid _ ha _ => .func _ _ (identText_isName _ _ _ hid) ha
  paren := fun ha _ => ha
  un := fun _ _ ha => .un _ _ ha
  bin := fun _ hl _ hr => .bin _ _ _ hl hr

/-- **whatever expression `expr()` returns is well-formed** — so the read-back theorem applies to
    every argument a caller can write -/
theorem expr_wf (s : Str) (e : Expr) (r : Str) (h : expr s = .ok e r) : Wf e :=
  closed_wf.infix h

end Avra.Props.C09
