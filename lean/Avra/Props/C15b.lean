/-
  C15 for the passes behind the parser, as ONE statement about `build_from_parsed`: an error of
  pass 1 or pass 2 carries the line number of an item of the program (as pass 0 left it), except
  the capacity and overlap errors, which concern a whole memory and carry no line.
-/
import Avra.Props.C15
namespace Avra.Props.C15b
open Avra.Model

def LineOf (segs : List Segment) (n : Nat) : Prop := ∃ s ∈ segs, ∃ p ∈ s.items, p.1 = n

/-- error kinds that concern a whole memory, not a line -/
def Unlined (e : Err) : Prop :=
  e.line = none ∧ (e.kind = "overdue" ∨ e.kind = "overlap" ∨ e.kind = "flash-overdue" ∨
    e.kind = "eeprom-overdue" ∨ e.kind = "ram-overdue")

/-- pass 1 hands every item on under the line number it came with -/
theorem pass1Items_lines (t : SegT) (limit : Nat) : ∀ (items : List (Nat × Item)) (cur : Nat) (ctx : Ctx)
    (e : Nat) (out : List (Nat × Item)) (ctx' : Ctx),
    pass1Items t limit items cur ctx = .ok (e, out, ctx') → ∀ p ∈ out, ∃ q ∈ items, q.1 = p.1 :=
  pass1Items_induction (fun _ _ _ _ h => nomatch h) <| by
    intro ln it rest cur ctx r e its ctx' hs ih p hp
    rcases List.mem_append.mp hp with hp | hp
    · rcases (pass1Step_ok hs).1 with h | ⟨it', h⟩ <;> rw [h] at hp
      · cases hp
      · exact ⟨(ln, it), List.mem_cons_self, by rw [List.mem_singleton.1 hp]⟩
    · obtain ⟨q, hq, hl⟩ := ih p hp
      exact ⟨q, List.mem_cons_of_mem _ hq, hl⟩

theorem pass1_go_lines (msgs : List Str) (dev : Device) : ∀ (segs : List Segment) (cO dO eO : Nat) (out : List Segment)
    (ctx : Ctx) (r : Pass1Result), pass1.go msgs dev segs cO dO eO out ctx = .ok r →
      ∀ n, LineOf r.segments n → LineOf segs n ∨ LineOf out n := by
  intro segs
  induction segs with
  | nil =>
    intro cO dO eO out ctx r h n ⟨x, hx, hp⟩
    unfold pass1.go at h
    simp only [Out.ok.injEq] at h; subst h
    exact Or.inr ⟨x, by simpa using hx, hp⟩
  | cons s more ih =>
    intro cO dO eO out ctx r h n hn
    -- `ih` after a segment whose items `its` came out of `s.items`
    have step : ∀ cO dO eO its t a ctx', (∀ p ∈ its, ∃ q ∈ s.items, q.1 = p.1) →
        pass1.go msgs dev more cO dO eO ({ items := its, t := t, address := a } :: out) ctx' = .ok r →
        LineOf (s :: more) n ∨ LineOf out n := by
      intro cO dO eO its t a ctx' hl h
      rcases ih _ _ _ _ _ _ h n hn with ⟨x, hx, hp⟩ | ⟨x, hx, p, hpm, hpl⟩
      · exact Or.inl ⟨x, List.mem_cons_of_mem _ hx, hp⟩
      · rcases List.mem_cons.mp hx with rfl | hx
        · obtain ⟨q, hq, hql⟩ := hl p hpm
          exact Or.inl ⟨s, List.mem_cons_self, q, hq, hql.trans hpl⟩
        · exact Or.inr ⟨x, hx, p, hpm, hpl⟩
    unfold pass1.go at h
    dsimp only at h
    repeat' split at h
    all_goals first
      | exact step _ _ _ _ _ _ _ (pass1Items_lines _ _ _ _ _ _ _ _ ‹_›) h
      | cases h

/-- the segment loop of pass 1: an error names the line of an item or is a capacity/overlap
    error; the segments handed to pass 2 hold only line numbers of the program's items -/
theorem pass1_go (msgs : List Str) (dev : Device) : ∀ (segs : List Segment) (cO dO eO : Nat) (out : List Segment) (ctx : Ctx),
    (∀ e, pass1.go msgs dev segs cO dO eO out ctx = .error e →
        (∃ n, e.line = some n ∧ LineOf segs n) ∨ Unlined e) ∧
    (∀ r, pass1.go msgs dev segs cO dO eO out ctx = .ok r →
        ∀ n, LineOf r.segments n → LineOf segs n ∨ LineOf out n) :=
  fun segs cO dO eO out ctx =>
    ⟨fun _ h => (pass1go_fails (Q := Fail.errorIs fun e => (∃ n, e.line = some n ∧ LineOf segs n) ∨ Unlined e) msgs dev
        (Or.inr ⟨rfl, Or.inl rfl⟩) (Or.inr ⟨rfl, Or.inr (Or.inl rfl)⟩) segs cO dO eO out ctx
        fun s hs p hp _ => Or.inl ⟨p.1, rfl, s, hs, p, hp, rfl⟩).error h,
     pass1_go_lines msgs dev segs cO dO eO out ctx⟩

/-- the segment loop of pass 2: every error names the line of an item -/
theorem pass2_go_error (p1 : Pass1Result) : ∀ (segs : List Segment) (code ee : List Nat) (ctx : Ctx) (e : Err),
    pass2.go p1 segs code ee ctx = .error e → ∃ n, e.line = some n ∧ LineOf segs n :=
  fun segs code ee ctx _ h =>
    (pass2go_fails (Q := Fail.errorIs fun e => ∃ n, e.line = some n ∧ LineOf segs n) p1 segs code ee ctx
      fun s hs p hp _ => ⟨p.1, rfl, s, hs, p, hp, rfl⟩).error h

/-- **C15 for `build_from_parsed`.**  Whatever the parsed program: when pass 0 has done its work
    (`p0`) and the build then fails, the error carries the line number of an item of the program
    as pass 0 left it — the item pass 1 or pass 2 stopped at — or it is one of the five errors
    that concern a whole memory (capacity of flash, EEPROM or RAM exceeded; segments overlapping),
    which carry no line. -/
theorem build_error_names_line (fs : Fs) (st : PState) (p0 : PState) (e : Err)
    (h0 : pass0 fs st.asParseResult st.ctx = .ok p0)
    (h : buildFromParsed fs st = .error e) :
    (∃ n, e.line = some n ∧ LineOf p0.segments n) ∨ Unlined e := by
  have hin : ∀ {s : Segment}, s ∈ p0.segments.filter (fun s => !s.items.isEmpty) → ∀ p ∈ s.items, LineOf p0.segments p.1 :=
    fun hs p hp => ⟨_, (List.mem_filter.mp hs).1, p, hp, rfl⟩
  rw [buildFromParsed_bind, h0, Out.ok_bind] at h
  refine Out.Sat.error (P := fun _ => True)
    (Q := Fail.errorIs fun e => (∃ n, e.line = some n ∧ LineOf p0.segments n) ∨ Unlined e) ?_ h
  refine (pass1go_fails _ _ (Or.inr ⟨rfl, .inl rfl⟩) (Or.inr ⟨rfl, .inr (.inl rfl)⟩) _ _ _ _ _ _
    fun s hs p hp _ => Or.inl ⟨p.1, rfl, hin hs p hp⟩).bind fun p1 h1 _ => ?_
  have hline : ∀ s ∈ p1.segments, ∀ p ∈ s.items, LineOf p0.segments p.1 := fun s hs p hp => by
    rcases pass1_go_lines _ _ _ _ _ _ _ _ p1 h1 p.1 ⟨s, hs, p, hp, rfl⟩ with ⟨x, hx, q, hq, hl⟩ | ⟨x, hx, _⟩
    · exact hl ▸ hin hx q hq
    · cases hx
  exact (pass2go_fails p1 _ _ _ _ fun s hs p hp _ => Or.inl ⟨p.1, rfl, hline s hs p hp⟩).bind fun p2 _ _ =>
    fitResult_fails p2 (Or.inr ⟨rfl, by simp⟩) (Or.inr ⟨rfl, by simp⟩) (Or.inr ⟨rfl, by simp⟩)

end Avra.Props.C15b
