/-
  C13 — instructions the selected device lacks are rejected; all others are unaffected.
-/
import Avra.Props.Enc
import Avra.Model.Build
import Avra.Spec.Gate
import Avra.Gen.Devices
namespace Avra.Props.C13
open Avra.Model Avra.Isa Avra.Lemmas Avra.Props.Enc

/-- Gen obligation: the model of `check_operation` reproduces the matrix extracted by executing
    the real `Device::check_operation` for every device of the table × every operation -/
def gateMatrixOk : Bool :=
  Gen.gateMatrix.all fun (name, row) =>
    match alookup name Gen.devices with
    | none => false
    | some d => row.all fun (op, allowed) => checkOperation d op == allowed

theorem gate_matches_model : gateMatrixOk = true := by decide +kernel

/-- … and for the default device (no `.device` line): nothing is rejected -/
theorem gate_default : (Gen.gateDefault.all fun (op, allowed) => checkOperation Gen.defaultDevice op == allowed && allowed) = true := by
  decide +kernel

/-- C13 (first half), for EVERY device (any set of disabled options, not only the rows of the
    table), every operation and every operand list: the model of the gate (`check_instruction`)
    accepts the instruction iff none of the feature flags the independent statement lists for that
    mnemonic and addressing form is disabled on the device. -/
theorem gate_exact (d : Device) (op : Op) (args : List IOp) :
    checkInstruction d op args = Spec.allowed d.opts op args := by
  have hidx : ∀ a : IOp, argAllowed d a = (Spec.argRequires a).all fun f => !d.opts.contains f := by
    intro a
    cases a with
    | index i =>
      cases i with
      | none r | postInc r | preDec r | postIncE r _ =>
        cases r <;> simp [argAllowed, Spec.argRequires, Spec.indexRequires, Device.allow]
    | r8 _ | e _ => simp [argAllowed, Spec.argRequires]
  have hargs : ∀ l : List IOp, l.all (argAllowed d) =
      (l.flatMap Spec.argRequires).all fun f => !d.opts.contains f := by
    intro l
    rw [List.all_flatMap]
    apply List.all_congr rfl
    intro a
    exact hidx a
  -- ldd/std: the displacement forms need `tiny1x` themselves and whatever their operands need
  have hdisp : (if (!d.allow .tiny1x) = true then false else args.all (argAllowed d)) =
      ((!d.opts.contains .tiny1x) && (args.flatMap Spec.argRequires).all fun f => !d.opts.contains f) := by
    rw [← hargs]
    cases h : d.opts.contains .tiny1x <;> simp only [Device.allow, h] <;> rfl
  unfold checkInstruction Spec.allowed
  cases op with
  | lpm | elpm => cases args <;> simp [checkOperation, Spec.requires, Device.allow]
  | ld | st => exact hargs args
  | ldd | std => exact hdisp
  | _ => simp [checkOperation, Spec.requires, Device.allow]

/-- C13 (second half): the encoder reads the device only through the reduced-core flag, and that
    flag matters only for lds/sts — every other instruction assembles to the same words on every
    device (at the level of resolved operands; the words are those of `model_eq_spec`). -/
theorem device_frame (b b' : Bool) (op : Op) (args : List AArg) (addr : Nat)
    (hstd : ∀ n, op ≠ .custom n) (hr : regsOk args) (hlds : op ≠ .lds) (hsts : op ≠ .sts) :
    mWords b op args addr = mWords b' op args addr := by
  rw [model_eq_spec b op args addr hstd hr, model_eq_spec b' op args addr hstd hr]
  unfold sWords
  cases op <;> first | rfl | exact absurd rfl hlds | exact absurd rfl hsts | (rename_i t; cases t <;> rfl)

/-! non-vacuity: devices of the table on which the flags bite -/
example : (alookup "ATtiny13".toList Gen.devices).map (fun d => checkInstruction d .muls [.r8 16, .r8 17]) = some false := by decide
example : (alookup "ATtiny11".toList Gen.devices).map (fun d => checkInstruction d .ld [.r8 0, .index (.none .x)]) = some false := by decide
example : (alookup "ATmega8".toList Gen.devices).map (fun d => checkInstruction d .ld [.r8 0, .index (.none .x)]) = some true := by decide

end Avra.Props.C13
