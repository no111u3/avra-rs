/-
  C11, "including a file is the same as pasting it", as an equation: `include_is_paste` for the
  line loop and `build_include_is_paste` for `build_str`.  The proof shows that no line but an
  `.include`/`.includepath` line can tell which file it stands in (`directiveParse_ctxfree`,
  `lineStep_ctxfree`, `loop_ctxfree`, `completes_ctxfree`).
-/
import Avra.Props.C11
import Avra.Props.C08b
namespace Avra.Props.C11b
open Avra.Model Avra.Lemmas.Skip Avra.Lemmas.Iter Avra.Lemmas.Paste Avra.Props.C11

def AllQ (Q : Nat × Str → Prop) (ls : List (Nat × Str)) : Prop := ∀ x ∈ ls, Q x

theorem skipStep_keeps (Q : Nat × Str → Prop) (st : PState) (ni : NextItem) (ls : List (Nat × Str)) (st' : PState)
    (l : Nat × Str) (r : Bool) (rest : List (Nat × Str)) (o : Bool) (hq : AllQ Q ls)
    (h : skipStep st ni ls = (st', some l, r, rest, o)) : Q l ∧ AllQ Q rest := by
  obtain ⟨k, hk⟩ := skipStep_suffix h
  have hsub : ∀ x ∈ l :: rest, Q x := fun x hx => hq x (List.mem_of_mem_drop (hk ▸ hx))
  exact ⟨hsub l List.mem_cons_self, fun x hx => hsub x (List.mem_cons_of_mem _ hx)⟩

def withIncs (I : List Str) : Out (PState × List Str × NextItem) → Out (PState × List Str × NextItem)
  | .ok (st, _, ni) => .ok (st, I, ni)
  | .error e => .error e
  | .panic p => .panic p
  | .oof => .oof

/-- no directive but `.include` and `.includepath` looks at the file it stands in, at the include
    set or at the include handler -/
theorem directiveParse_ctxfree (inc inc' : IncludeFn) (cur cur' : Str) (incs incs' : List Str) (st : PState)
    (d : Directive) (ops : DirectiveOps) (ln : Nat) (h1 : d ≠ .include) (h2 : d ≠ .includepath) :
    directiveParse inc cur incs st d ops ln = withIncs incs (directiveParse inc' cur' incs' st d ops ln) := by
  unfold directiveParse
  dsimp only
  repeat' split
  all_goals first
    | rfl
    | exact absurd rfl h1
    | exact absurd rfl h2

/-- a line that is no `.include` and no `.includepath` line -/
def CtxFree (l : Nat × Str) : Prop :=
  ∀ lab d ops o, parseLine l.2 = (some (.directiveLine lab d ops), o) → d ≠ .include ∧ d ≠ .includepath

theorem lineStep_ctxfree (inc inc' : IncludeFn) (cur cur' : Str) (incs incs' : List Str) (st : PState)
    (idx : Nat) (text : Str) (r : Bool) (hf : CtxFree (idx, text)) :
    lineStep inc cur incs st idx text r = withIncs incs (lineStep inc' cur' incs' st idx text r) := by
  unfold lineStep
  split
  · rfl
  · rfl
  · rename_i doc o _ hp
    cases doc <;> try rfl
    rename_i lab d ops
    dsimp only
    split
    · rfl
    · exact directiveParse_ctxfree inc inc' cur cur' incs incs' _ d ops _ (hf lab d ops o hp).1 (hf lab d ops o hp).2

def withIncs2 (I : List Str) : Out (PState × List Str) → Out (PState × List Str)
  | .ok (st, _) => .ok (st, I)
  | .error e => .error e
  | .panic p => .panic p
  | .oof => .oof

/-- the whole line loop over lines none of which is an `.include`/`.includepath` line does the
    same in every file context: same state, same errors; the include set is handed through -/
theorem loop_ctxfree (inc inc' : IncludeFn) (cur cur' : Str) : ∀ (lf : Nat) (incs incs' : List Str) (st : PState)
    (ni : NextItem) (ls : List (Nat × Str)), AllQ CtxFree ls →
    parseIterWith inc cur lf incs st ni ls = withIncs2 incs (parseIterWith inc' cur' lf incs' st ni ls) := by
  intro lf
  induction lf with
  | zero => intro incs incs' st ni ls _; rfl
  | succ lf ih =>
    intro incs incs' st ni ls hq
    unfold parseIterWith
    rcases hs : skipStep st ni ls with ⟨st1, _ | ⟨idx, text⟩, re, rest, _ | _⟩ <;> try rfl
    have hk := skipStep_keeps CtxFree st ni ls st1 (idx, text) re rest false hq hs
    dsimp only
    rw [lineStep_ctxfree inc inc' cur cur' incs incs' st1 idx text re hk.1]
    rcases lineStep inc' cur' incs' st1 idx text re with ⟨st2, incsX, ni2⟩ | _ | _ | _ <;> try rfl
    exact ih incs incsX st2 ni2 rest hk.2

theorem lineStep_keeps_incs (inc : IncludeFn) (cur : Str) (incs : List Str) (st st' : PState) (idx : Nat) (text : Str)
    (r : Bool) (incs' : List Str) (ni' : NextItem) (hf : CtxFree (idx, text))
    (h : lineStep inc cur incs st idx text r = .ok (st', incs', ni')) : incs' = incs := by
  have := lineStep_ctxfree inc inc cur cur incs incs st idx text r hf
  rw [h] at this
  simp only [withIncs, Out.ok.injEq, Prod.mk.injEq] at this
  exact this.2.1

/-- a run that completes over context-free lines completes in every other file context too, to
    the same state, with the include set it was started with -/
theorem completes_ctxfree (inc inc' : IncludeFn) (cur cur' : Str) (s : PState × List Str) (ni : NextItem)
    (ls : List (Nat × Str)) (s' : PState × List Str) (h : Completes inc cur s ni ls s') :
    AllQ CtxFree ls → ∀ I', Completes inc' cur' (s.1, I') ni ls (s'.1, I') := by
  induction h with
  | done s => intro _ I'; exact Completes.done _
  | skipEnd s ni ls st' hs => intro _ I'; exact Completes.skipEnd (s.1, I') ni ls st' hs
  | step s ni ls rest st1 st' idx text re incs' ni' s'' hsk hl _ ih =>
    intro hq I'
    have hk := skipStep_keeps CtxFree s.1 ni ls st1 (idx, text) re rest false hq hsk
    have hl' : lineStep inc' cur' I' st1 idx text re = .ok (st', I', ni') := by
      rw [lineStep_ctxfree inc' inc cur' cur I' s.2 st1 idx text re hk.1, hl]; rfl
    exact Completes.step (s.1, I') ni ls rest st1 st' idx text re I' ni' _ hsk hl' (ih hk.2 I')

/-- the run that completes ends as `loop_ctxfree` says: with the include set it was started with -/
theorem completes_keeps_incs (inc : IncludeFn) (cur : Str) (s : PState × List Str) (ni : NextItem)
    (ls : List (Nat × Str)) (s' : PState × List Str) (h : Completes inc cur s ni ls s')
    (hq : AllQ CtxFree ls) : s' = (s'.1, s.2) := by
  have hl := loop_ctxfree inc inc cur cur (ls.length + 1) s.2 s.2 s.1 ni ls hq
  rw [show parseIterWith inc cur (ls.length + 1) s.2 s.1 ni ls = .ok s' from run_alone inc cur s ni ls s' h] at hl
  exact Out.ok.inj hl

/-- **Including a file is pasting it** — as an equation between two runs of the line loop, for a
    file whose lines hold no `.include`/`.includepath` of their own (those are what the property
    says resolves differently inside a file) and leave nothing open at their end (the recorded
    finding): the line `.include "path"` followed by `post`, and the LINES OF THE FILE followed by
    `post` (each line with the number it has in its own file), give the same result — same
    segments, symbols, macros, messages, errors.  `hback` says that the include set comes back
    from the file as it went in, which is so for every sorted set (the code keeps a `BTreeSet`);
    it is decidable for any concrete set and is left as a hypothesis here. -/
theorem include_is_paste (fs : Fs) (d : Nat) (cur : Str) (incs : List Str) (st : PState) (idx : Nat) (text path : Str)
    (post : List (Nat × Str)) (src : Str) (s' : PState × List Str)
    (hp : parseLine text = (some (.directiveLine none .include (.opList [.s path])), false))
    (hread : fs.read (resolve fs path incs) = some src)
    (hfree : AllQ CtxFree (numbered (lines src)))
    (hC : Completes (parseFileAt fs (d + 1)) cur (st, incs) .newLine (numbered (lines src)) s')
    (hback : writeBack (ownDir (resolve fs path incs) incs) (insideSet (resolve fs path incs) incs) incs = incs) :
    runFrom (parseFileAt fs (d + 1)) cur (st, incs) .newLine ((idx, text) :: post) =
    runFrom (parseFileAt fs (d + 1)) cur (st, incs) .newLine (numbered (lines src) ++ post) := by
  have hC' := completes_ctxfree (parseFileAt fs (d + 1)) (parseFileAt fs d) cur (resolve fs path incs) _ _ _ _ hC hfree
    (insideSet (resolve fs path incs) incs)
  rw [included_lines fs d cur incs st idx text path post src _ hp hread hC']
  rw [pasted_lines _ _ _ _ _ post hC]
  have hs := completes_keeps_incs _ _ _ _ _ _ hC hfree
  rw [hs]
  simp only [hback]

/-- **… and for the whole build**: a program `pre ++ [.include "path"] ++ post` builds to exactly
    what the program with the file's lines in place of the `.include` line builds to (every line
    keeping the number it has in its own file: the error of a faulty line names the same number
    either way) — images, sizes, messages or the same error. -/
theorem build_include_is_paste (fs : Fs) (pre post : List (Nat × Str)) (idx : Nat) (text path src : Str)
    (s1 s' : PState × List Str)
    (hpre : Completes (parseFileAt fs includeDepth) fs.cwd (PState.init initCtx, []) .newLine pre s1)
    (hp : parseLine text = (some (.directiveLine none .include (.opList [.s path])), false))
    (hread : fs.read (resolve fs path s1.2) = some src)
    (hfree : AllQ CtxFree (numbered (lines src)))
    (hC : Completes (parseFileAt fs includeDepth) fs.cwd s1 .newLine (numbered (lines src)) s')
    (hback : writeBack (ownDir (resolve fs path s1.2) s1.2) (insideSet (resolve fs path s1.2) s1.2) s1.2 = s1.2) :
    C08b.buildLines fs (pre ++ (idx, text) :: post) = C08b.buildLines fs (pre ++ (numbered (lines src) ++ post)) := by
  have hd : includeDepth = (includeDepth - 1) + 1 := by decide
  apply C08b.buildLines_congr
  rw [pasted_lines _ _ _ _ _ _ hpre, pasted_lines _ _ _ _ _ _ hpre]
  obtain ⟨st1, incs1⟩ := s1
  rw [hd] at hC ⊢
  rw [include_is_paste fs (includeDepth - 1) fs.cwd incs1 st1 idx text path post src s' hp hread hfree hC hback]

/-! non-vacuity of `hback`: the file's own directory already in the set; not yet in the set -/
example : writeBack (ownDir "/p/f.inc".toList ["/p".toList]) (insideSet "/p/f.inc".toList ["/p".toList]) ["/p".toList]
    = ["/p".toList] := by decide +kernel
example : writeBack (ownDir "/p/f.inc".toList []) (insideSet "/p/f.inc".toList []) [] = [] := by decide +kernel
example : writeBack (ownDir "/p/f.inc".toList ["/a".toList, "/z".toList]) (insideSet "/p/f.inc".toList ["/a".toList, "/z".toList])
    ["/a".toList, "/z".toList] = ["/a".toList, "/z".toList] := by decide +kernel

end Avra.Props.C11b
