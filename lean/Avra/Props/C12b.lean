/-
  C12, "a program that fills a memory exactly to capacity builds and one that needs a single unit
  more fails", as pass 1 decides it: for flash filled with one-word instructions, and for EEPROM
  and RAM filled with `.byte` reservations.
-/
import Avra.Props.C12
namespace Avra.Props.C12b
open Avra.Model

theorem info_nop : ∀ b, info b .nop = some (1, 0) := by decide +kernel

/-- `k` one-word instructions from word `cur` on, in a flash of `limit` words: pass 1 accepts them
    iff `cur + k ≤ limit` — exactly full builds, one word more is refused -/
theorem flash_fill_exact (limit ln : Nat) (ctx : Ctx) : ∀ (k cur : Nat),
    (cur + k ≤ limit →
      pass1Items .code limit (List.replicate k (ln, .instruction .nop [])) cur ctx =
        .ok (cur + k, List.replicate k (ln, .instruction .nop []), ctx)) ∧
    (cur + k > limit → ∃ e, pass1Items .code limit (List.replicate k (ln, .instruction .nop [])) cur ctx = .error e ∧
        e.kind = "overdue") := by
  intro k
  induction k with
  | zero =>
    intro cur
    constructor
    · intro h; simp [pass1Items_nil, show ¬ cur > limit by omega]
    · intro h; exact ⟨⟨none, "overdue"⟩, by simp [pass1Items_nil, show cur > limit by omega, noLineErr], rfl⟩
  | succ k ih =>
    intro cur
    have hb := info_nop ctx.device.isAvr8l
    constructor
    · intro h
      have := (ih (cur + 1)).1 (by omega)
      simp only [List.replicate_succ, pass1Items_cons, pass1Step, show ¬ cur > limit by omega, if_false, hb,
        Out.ok_bind, this, prependItems, List.cons_append, List.nil_append]
      congr 2; omega
    · intro h
      simp only [List.replicate_succ]
      by_cases hc : cur > limit
      · refine ⟨⟨some ln, "overdue"⟩, ?_, rfl⟩
        simp [pass1Items_cons, hc, lineErr]
      · obtain ⟨e, he, hk⟩ := (ih (cur + 1)).2 (by omega)
        refine ⟨e, ?_, hk⟩
        simp only [pass1Items_cons, pass1Step, hc, if_false, hb, Out.ok_bind, he, prependItems]

/-- a reservation of `n` bytes from `cur` on in RAM (`.dseg`) or EEPROM of capacity `limit`:
    accepted iff `cur + n ≤ limit` -/
theorem reserve_fill_exact (t : SegT) (ht : t ≠ .code) (limit ln : Nat) (n : Nat) (hn : n ≤ 4294967295) (cur : Nat) (ctx : Ctx)
    (hcur : cur ≤ limit) :
    (cur + n ≤ limit → ∃ its, pass1Items t limit [(ln, .reserveData (n : Int))] cur ctx = .ok (cur + n, its, ctx)) ∧
    (cur + n > limit → pass1Items t limit [(ln, .reserveData (n : Int))] cur ctx = .error ⟨none, "overdue"⟩) := by
  have hr : ¬ ((n : Int) < 0 ∨ (n : Int) > 4294967295) := by omega
  have hc : ¬ cur > limit := by omega
  have hs : pass1Items t limit [(ln, .reserveData (n : Int))] cur ctx =
      if cur + n > limit then noLineErr "overdue"
      else .ok (cur + n, if t = .eeprom then [(ln, .reserveData (n : Int))] else [], ctx) := by
    cases t with
    | code => exact absurd rfl ht
    | _ =>
      by_cases h : cur + n > limit <;>
        simp [pass1Items_cons, pass1Items_nil, pass1Step, hc, hr, h, prependItems, noLineErr]
  rw [hs]
  exact ⟨fun h => ⟨_, if_neg (by omega)⟩, fun h => if_pos h⟩

end Avra.Props.C12b
