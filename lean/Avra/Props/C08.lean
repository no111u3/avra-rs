/-
  C08 — conditional assembly assembles exactly the selected branch.

  Model: `parseIterWith` / `skipCond` / `lineStep` (parser.rs `parse_iter`, `skip`; directive.rs).
  Spec:  Avra.Spec.Cond (conditional trees; `run` = assemble the plain lines of the first
         branch whose condition holds, or of `.else`, recursively; nothing else).
-/
import Avra.Lemmas.Cond
import Avra.Lemmas.Iter
import Avra.Lemmas.Sel
namespace Avra.Props.C08
open Avra.Model Avra.Spec Avra.Lemmas.Skip Avra.Lemmas.Cond Avra.Lemmas.Iter Avra.Lemmas.Sel

/-- ways the model can fail on a line; `scope` marks a plain line outside the theorem's scope
    (a `.macro` or `.exit` line in a selected position changes what the following lines mean) -/
inductive MFail
  | error (e : Err) | panic (s : String) | oof | scope

abbrev MSt := PState × List Str

/-- assembling a plain line = the model's own line step (normal delivery) -/
def mExec (inc : IncludeFn) (cur : Str) (s : MSt) (l : Line) : Res MSt MFail :=
  match lineStep inc cur s.2 s.1 l.1 l.2 false with
  | .ok (st', incs', .newLine) => .ok (st', incs')
  | .ok _ => .fail .scope
  | .error e => .fail (.error e)
  | .panic p => .fail (.panic p)
  | .oof => .fail .oof

/-- evaluating the condition of a head line or of an `.elif` line = the model's own line step
    on that directive line (an `.elif` counts when it is reached by skipping) -/
def mHolds (inc : IncludeFn) (cur : Str) (s : MSt) (l : Line) : Res (MSt × Bool) MFail :=
  match lineStep inc cur s.2 s.1 l.1 l.2 (decide (kindOf l = .elif)) with
  | .ok (st', incs', .newLine) => .ok ((st', incs'), true)
  | .ok (st', incs', .endIf) => .ok ((st', incs'), false)
  | .ok _ => .fail .scope
  | .error e => .fail (.error e)
  | .panic p => .fail (.panic p)
  | .oof => .fail .oof

/-- what the whole run must be, given the outcome of the reference semantics on a prefix and the
    run on the rest; no claim when the prefix left the theorem's scope -/
def after {α : Type} (r : Res α MFail) (k : α → Out (PState × List Str)) (out : Out (PState × List Str)) : Prop :=
  match r with
  | .ok s => out = k s
  | .fail (.error e) => out = .error e
  | .fail (.panic p) => out = .panic p
  | .fail .oof => out = .oof
  | .fail .scope => True

/-- in the failure case the whole run failed in the same way whatever follows: `after` holds for
    every continuation `k'` -/
@[elab_as_elim]
theorem after_elim {α : Type} {P : Res α MFail → Prop} {r : Res α MFail} {k : α → Out (PState × List Str)}
    {out : Out (PState × List Str)} (h : after r k out) (ok : ∀ a, out = k a → P (.ok a))
    (fail : ∀ f, (∀ {β : Type} (k' : β → Out (PState × List Str)), after (.fail f : Res β MFail) k' out) → P (.fail f)) :
    P r := by
  cases r with
  | ok a => exact ok a h
  | fail f => exact fail f (fun k' => by cases f <;> exact h)

/-! ### one round of the loop, by the kind of the line delivered -/

theorem run_plain {inc : IncludeFn} {cur : Str} (s : MSt) (l : Line) (rest : List Line) :
    after (mExec inc cur s l) (fun s' => runFrom inc cur s' .newLine rest) (runFrom inc cur s .newLine (l :: rest)) := by
  obtain ⟨n, t⟩ := l
  rw [runFrom_step]
  simp only [skipStep, mExec]
  cases lineStep inc cur s.2 s.1 n t false with
  | ok v => obtain ⟨st', incs', ni'⟩ := v; cases ni' <;> simp [after]
  | _ => simp [after]

/-- a head line, or an `.elif` line that the skipper found -/
theorem run_cond {inc : IncludeFn} {cur : Str} (s : MSt) (ni : NextItem) (ls : List Line) (l : Line) (rest : List Line)
    (h : skipStep s.1 ni ls = (s.1, some l, decide (kindOf l = .elif), rest, false)) :
    after (mHolds inc cur s l) (fun r => runFrom inc cur r.1 (if r.2 then .newLine else .endIf) rest)
      (runFrom inc cur s ni ls) := by
  obtain ⟨n, t⟩ := l
  rw [runFrom_step, h]
  simp only [mHolds]
  cases lineStep inc cur s.2 s.1 n t (decide (kindOf (n, t) = .elif)) with
  | ok v => obtain ⟨st', incs', ni'⟩ := v; cases ni' <;> simp [after]
  | _ => simp [after]

/-- an `.else` or `.elif` line reached from an assembled branch -/
theorem run_mid {inc : IncludeFn} {cur : Str} {s : MSt} {l : Line} {rest : List Line}
    (h : isDir l (· = .else) ∨ isDir l (· = .elif)) :
    runFrom inc cur s .newLine (l :: rest) = runFrom inc cur s .endIfAll rest := by
  rw [runFrom_step]
  rcases h with ⟨d, ops, hp, rfl⟩ | ⟨d, ops, hp, rfl⟩ <;> simp [skipStep, lineStep, hp]

theorem run_endif {inc : IncludeFn} {cur : Str} {s : MSt} {l : Line} {rest : List Line} (h : isDir l (· = .endif)) :
    runFrom inc cur s .newLine (l :: rest) = runFrom inc cur s .newLine rest := by
  obtain ⟨d, ops, hp, rfl⟩ := h
  rw [runFrom_step]
  simp only [skipStep, lineStep, hp]
  rfl

/-- a skip that ends behind an `.endif` or `.else` line -/
theorem run_after_stop {inc : IncludeFn} {cur : Str} (s : MSt) (ni : NextItem) (ls rest : List Line)
    (h : skipStep s.1 ni ls = (s.1, handOn false rest)) :
    runFrom inc cur s ni ls = runFrom inc cur s .newLine rest := by
  rw [runFrom_step, runFrom_step, h, skipStep_newLine]

/-- after an assembled branch: whatever remains of the construct (further `.elif` arms, the
    `.else` arm, the `.endif`) has no effect -/
theorem finish_construct (inc : IncludeFn) (cur : Str) (s : MSt) (arms : Arms) (els : ElseArm) (endl : Line)
    (rest : List Line) (ha : arms.wf) (he : els.wf) (hend : isDir endl (· = .endif)) :
    runFrom inc cur s .newLine (arms.flatten ++ (els.flatten ++ endl :: rest)) =
      runFrom inc cur s .newLine rest := by
  cases arms with
  | cons l body more =>
    simp only [Arms.flatten, List.cons_append, List.append_assoc]
    rw [run_mid (.inr ha.1)]
    apply run_after_stop
    rw [skipStep_endIfAll, skip_blocks true body ha.2.1, skip_arms_at true more ha.2.2 0 (.inr rfl),
      skip_else_at true els he 0 (.inr rfl), skip_stop_top (.inl hend)]
  | nil =>
    cases els with
    | some l body =>
      simp only [Arms.flatten, ElseArm.flatten, List.nil_append, List.cons_append]
      rw [run_mid (.inl he.1)]
      apply run_after_stop
      rw [skipStep_endIfAll, skip_blocks true body he.2, skip_stop_top (.inl hend)]
    | none => exact run_endif hend

/-! ### the simulation -/

/-- the body the skipper is in when no `.elif` arm holds: the last arm's, or the one before -/
def lastBody : Arms → Blocks → Blocks
  | .nil, b => b
  | .cons _ body rest, _ => lastBody rest body

theorem lastBody_wf : ∀ (arms : Arms) (b : Blocks), arms.wf → b.wf → (lastBody arms b).wf
  | .nil, _, _, hb => hb
  | .cons _ body rest, _, h, _ => lastBody_wf rest body h.2.2 h.2.1

mutual
/-- a block followed by `rest`: the run is the run of `rest` from the state the reference
    semantics reaches on the block -/
theorem sim_block (inc : IncludeFn) (cur : Str) : ∀ (b : Block), b.wf → ∀ (s : MSt) (rest : List Line),
    after (b.run (mExec inc cur) (mHolds inc cur) s) (fun s' => runFrom inc cur s' .newLine rest)
      (runFrom inc cur s .newLine (b.flatten ++ rest))
  | .plain l, _, s, rest => run_plain s l rest
  | .cond hd body arms els endl, ⟨hhd, hbody, harms, hels, hend⟩, s, rest => by
    simp only [Block.flatten, List.cons_append, List.append_assoc, List.nil_append, Block.run]
    refine after_elim (run_cond s .newLine _ hd _ (by rw [kind_open hhd]; rfl))
      (fun r h1 => ?_) (fun f hf => hf _)
    obtain ⟨s1, t⟩ := r
    rw [h1]
    cases t with
    | true =>
      -- head condition holds: the body is assembled, the rest of the construct skipped
      simp only [if_true]
      refine after_elim (sim_blocks inc cur body hbody s1 _) (fun s2 hb => ?_) (fun f hf => hf _)
      exact hb.trans (finish_construct inc cur s2 arms els endl rest harms hels hend)
    | false =>
      simp only [Bool.false_eq_true, if_false]
      refine after_elim (sim_arms inc cur arms harms els hels endl hend s1 rest body hbody)
        (fun v2 ha => ?_) (fun f hf => hf _)
      obtain ⟨s2, ran⟩ := v2
      cases ran with
      | true => exact ha
      | false =>
        -- no arm ran: the search goes on to the `.else` arm, if any, or to the `.endif`
        rw [ha]
        exact sim_else inc cur els hels endl hend s2 rest _ (lastBody_wf arms body harms hbody)

theorem sim_blocks (inc : IncludeFn) (cur : Str) : ∀ (bs : Blocks), bs.wf → ∀ (s : MSt) (rest : List Line),
    after (bs.run (mExec inc cur) (mHolds inc cur) s) (fun s' => runFrom inc cur s' .newLine rest)
      (runFrom inc cur s .newLine (bs.flatten ++ rest))
  | .nil, _, s, rest => rfl
  | .cons b bs, hwf, s, rest => by
    simp only [Blocks.flatten, List.append_assoc, Blocks.run]
    refine after_elim (sim_block inc cur b hwf.1 s (bs.flatten ++ rest)) (fun s2 hb => ?_) (fun f hf => hf _)
    rw [hb]
    exact sim_blocks inc cur bs hwf.2 s2 rest

/-- searching for the next arm (`skip` in EndIf mode) from the start of an unselected body:
    the `.elif` arms in order; when none holds the search goes on from the last arm's body -/
theorem sim_arms (inc : IncludeFn) (cur : Str) : ∀ (arms : Arms), arms.wf → ∀ (els : ElseArm), els.wf →
    ∀ (endl : Line), isDir endl (· = .endif) → ∀ (s : MSt) (rest : List Line) (skipped : Blocks), skipped.wf →
    after (arms.run (mExec inc cur) (mHolds inc cur) s)
      (fun r => if r.2 then runFrom inc cur r.1 .newLine rest
        else runFrom inc cur r.1 .endIf ((lastBody arms skipped).flatten ++ (els.flatten ++ endl :: rest)))
      (runFrom inc cur s .endIf (skipped.flatten ++ (arms.flatten ++ (els.flatten ++ endl :: rest))))
  | .nil, _, els, _, endl, _, s, rest, skipped, _ => rfl
  | .cons l body more, ⟨hl, hbody, hmore⟩, els, hels, endl, hend, s, rest, skipped, hsk => by
    simp only [Arms.flatten, List.cons_append, List.append_assoc, Arms.run, lastBody]
    -- the skip stops at the `.elif` line and re-delivers it
    refine after_elim (run_cond s .endIf _ l _ (by
        rw [skipStep_endIf, skip_blocks false skipped hsk, skip_elif_top hl, kind_elif hl]; rfl))
      (fun r h1 => ?_) (fun f hf => hf _)
    obtain ⟨s1, t⟩ := r
    rw [h1]
    cases t with
    | true =>
      simp only [if_true]
      refine after_elim (sim_blocks inc cur body hbody s1 _) (fun s2 hb => ?_) (fun f hf => hf _)
      exact hb.trans (finish_construct inc cur s2 more els endl rest hmore hels hend)
    | false => exact sim_arms inc cur more hmore els hels endl hend s1 rest body hbody

/-- the search arrives at the end of the arms: the `.else` arm is assembled, if there is one -/
theorem sim_else (inc : IncludeFn) (cur : Str) : ∀ (els : ElseArm), els.wf → ∀ (endl : Line), isDir endl (· = .endif) →
    ∀ (s : MSt) (rest : List Line) (skipped : Blocks), skipped.wf →
    after (els.run (mExec inc cur) (mHolds inc cur) s) (fun s' => runFrom inc cur s' .newLine rest)
      (runFrom inc cur s .endIf (skipped.flatten ++ (els.flatten ++ endl :: rest)))
  | .none, _, endl, hend, s, rest, skipped, hsk => by
    simp only [ElseArm.flatten, List.nil_append, ElseArm.run, after]
    apply run_after_stop
    rw [skipStep_endIf, skip_blocks false skipped hsk, skip_stop_top (.inl hend)]
  | .some l body, ⟨hl, hbody⟩, endl, hend, s, rest, skipped, hsk => by
    simp only [ElseArm.flatten, List.cons_append, ElseArm.run]
    rw [run_after_stop s .endIf _ (body.flatten ++ endl :: rest) (by
      rw [skipStep_endIf, skip_blocks false skipped hsk, skip_stop_top (.inr ⟨hl, rfl⟩)])]
    refine after_elim (sim_blocks inc cur body hbody s (endl :: rest)) (fun s3 hb => ?_) (fun f hf => hf _)
    exact hb.trans (run_endif hend)
end

/-- C08: for EVERY well-formed conditional tree (any number of `.elif` arms, with or without
    `.else`, nested to any depth inside taken and untaken branches, arbitrary text — also text
    that does not parse — as payload) followed by any further lines, from every state: assembling
    the text of the tree is assembling exactly the plain lines of the selected branches, in
    order; no line of any other branch is even looked at by the line step (no code, symbol,
    message or error). -/
theorem conditional_selects (inc : IncludeFn) (cur : Str) (bs : Blocks) (hwf : bs.wf) (s : MSt) (rest : List Line) :
    after (bs.run (mExec inc cur) (mHolds inc cur) s) (fun s' => runFrom inc cur s' .newLine rest)
      (runFrom inc cur s .newLine (bs.flatten ++ rest)) :=
  sim_blocks inc cur bs hwf s rest

/-! ### "identical to the program with the unselected lines deleted" -/

theorem directiveParse_cond_ok (inc : IncludeFn) (cur : Str) (incs : List Str) (st : PState) (d : Directive)
    (ops : DirectiveOps) (ln : Nat) (r : PState × List Str × NextItem) (hd : isCondOpen d = true ∨ d = .elif)
    (h : directiveParse inc cur incs st d ops ln = .ok r) : r.1 = st ∧ r.2.1 = incs := by
  simp only [isCondOpen, decide_eq_true_eq] at hd
  rcases hd with (rfl | rfl | rfl) | rfl
  all_goals
    unfold directiveParse at h
    dsimp only at h
    repeat' split at h
    -- every exit is an error, out of fuel, or `.ok (st, incs, _)`
    all_goals cases h <;> exact ⟨rfl, rfl⟩

/-- evaluating the condition of a head line or of an `.elif` line does not change the state -/
theorem mHolds_pure (inc : IncludeFn) (cur : Str) (l : Line)
    (h : isDir l (fun d => isCondOpen d = true) ∨ isDir l (· = .elif)) (s s' : MSt) (b : Bool)
    (hh : mHolds inc cur s l = .ok (s', b)) : s' = s := by
  obtain ⟨d, ops, hp, hd⟩ : isDir l (fun d => isCondOpen d = true ∨ d = .elif) := by
    rcases h with ⟨d, ops, hp, hd⟩ | ⟨d, ops, hp, hd⟩
    · exact ⟨d, ops, hp, .inl hd⟩
    · exact ⟨d, ops, hp, .inr hd⟩
  obtain ⟨st, incs⟩ := s
  have hstep : ∀ re r, lineStep inc cur incs st l.1 l.2 re = .ok r → r.1 = st ∧ r.2.1 = incs := by
    intro re r hr
    unfold lineStep at hr
    simp only [hp] at hr
    split at hr
    · cases hr; exact ⟨rfl, rfl⟩
    · exact directiveParse_cond_ok _ _ _ _ _ _ _ _ hd hr
  unfold mHolds at hh
  split at hh <;> cases hh <;> rename_i hl <;> obtain ⟨rfl, rfl⟩ := hstep _ _ hl <;> rfl

mutual
theorem block_condLines_dir : ∀ (b : Block), b.wf → ∀ l ∈ b.condLines,
    isDir l (fun d => isCondOpen d = true) ∨ isDir l (· = .elif)
  | .plain _, _ => by simp [Block.condLines]
  | .cond hd body arms els endl, h => by
    simp only [Block.condLines, List.forall_mem_cons, List.forall_mem_append]
    exact ⟨.inl h.1, blocks_condLines_dir body h.2.1, arms_condLines_dir arms h.2.2.1, else_condLines_dir els h.2.2.2.1⟩
theorem blocks_condLines_dir : ∀ (bs : Blocks), bs.wf → ∀ l ∈ bs.condLines,
    isDir l (fun d => isCondOpen d = true) ∨ isDir l (· = .elif)
  | .nil, _ => by simp [Blocks.condLines]
  | .cons b bs, h => by
    simp only [Blocks.condLines, List.forall_mem_append]
    exact ⟨block_condLines_dir b h.1, blocks_condLines_dir bs h.2⟩
theorem arms_condLines_dir : ∀ (a : Arms), a.wf → ∀ l ∈ a.condLines,
    isDir l (fun d => isCondOpen d = true) ∨ isDir l (· = .elif)
  | .nil, _ => by simp [Arms.condLines]
  | .cons x body rest, h => by
    simp only [Arms.condLines, List.forall_mem_cons, List.forall_mem_append]
    exact ⟨.inr h.1, blocks_condLines_dir body h.2.1, arms_condLines_dir rest h.2.2⟩
theorem else_condLines_dir : ∀ (e : ElseArm), e.wf → ∀ l ∈ e.condLines,
    isDir l (fun d => isCondOpen d = true) ∨ isDir l (· = .elif)
  | .none, _ => by simp [ElseArm.condLines]
  | .some x body, h => blocks_condLines_dir body h.2
end

/-- the lines a tree selects are plain lines of the tree -/
def PlainOk (ls : List Line) : Prop := ∀ l ∈ ls, kindOf l = .other ∧ noOof l

theorem PlainOk.append {a b : List Line} (ha : PlainOk a) (hb : PlainOk b) : PlainOk (a ++ b) :=
  List.forall_mem_append.mpr ⟨ha, hb⟩

theorem PlainOk.nil : PlainOk [] := nofun

mutual
theorem block_sel_plain {St F : Type} (exec : St → Line → Res St F) (holds : St → Line → Res (St × Bool) F) :
    ∀ (b : Block), b.wf → ∀ (s s' : St) (ls : List Line), b.sel exec holds s = .ok (s', ls) → PlainOk ls
  | .plain l, h, s, s', ls, hs => by
    obtain ⟨_, rfl⟩ := Block.sel_plain_ok hs
    exact List.forall_mem_singleton.mpr h
  | .cond hd body arms els endl, h, s, s', ls, hs => by
    obtain ⟨st, ⟨_, hb⟩ | ⟨_, ha | ⟨st2, l2, _, he⟩⟩⟩ := Block.sel_cond_ok hs
    · exact blocks_sel_plain exec holds body h.2.1 st s' ls hb
    · exact arms_sel_plain exec holds arms h.2.2.1 st s' ls true ha
    · exact else_sel_plain exec holds els h.2.2.2.1 st2 s' ls he
theorem blocks_sel_plain {St F : Type} (exec : St → Line → Res St F) (holds : St → Line → Res (St × Bool) F) :
    ∀ (bs : Blocks), bs.wf → ∀ (s s' : St) (ls : List Line), bs.sel exec holds s = .ok (s', ls) → PlainOk ls
  | .nil, _, s, s', ls, hs => by cases hs; exact .nil
  | .cons b bs, h, s, s', ls, hs => by
    obtain ⟨st, l1, l2, hb, hbs, rfl⟩ := Blocks.sel_cons_ok hs
    exact (block_sel_plain exec holds b h.1 s st l1 hb).append (blocks_sel_plain exec holds bs h.2 st s' l2 hbs)
theorem arms_sel_plain {St F : Type} (exec : St → Line → Res St F) (holds : St → Line → Res (St × Bool) F) :
    ∀ (a : Arms), a.wf → ∀ (s s' : St) (ls : List Line) (t : Bool), a.sel exec holds s = .ok (s', ls, t) → PlainOk ls
  | .nil, _, s, s', ls, t, hs => by cases hs; exact .nil
  | .cons x body rest, h, s, s', ls, t, hs => by
    obtain ⟨st, ⟨_, _, hb⟩ | ⟨_, hr⟩⟩ := Arms.sel_cons_ok hs
    · exact blocks_sel_plain exec holds body h.2.1 st s' ls hb
    · exact arms_sel_plain exec holds rest h.2.2 st s' ls t hr
theorem else_sel_plain {St F : Type} (exec : St → Line → Res St F) (holds : St → Line → Res (St × Bool) F) :
    ∀ (e : ElseArm), e.wf → ∀ (s s' : St) (ls : List Line), e.sel exec holds s = .ok (s', ls) → PlainOk ls
  | .none, _, s, s', ls, hs => by cases hs; exact .nil
  | .some x body, h, s, s', ls, hs => blocks_sel_plain exec holds body h.2 s s' ls hs
end

theorem plainBlocks_wf : ∀ (ls : List Line), PlainOk ls → (plainBlocks ls).wf
  | [], _ => trivial
  | l :: ls, h => ⟨h l (by simp), plainBlocks_wf ls (fun x hx => h x (by simp [hx]))⟩

/-- **C08, second half.**  When the program assembles, it assembles to the same state as the
    program with every unselected line — and every `.if/.ifdef/.ifndef/.elif/.else/.endif` line —
    DELETED: `ls` are exactly the plain lines of the selected branches, in order (`Blocks.sel`),
    and running the loop over the whole text equals running it over `ls` alone.  For every
    well-formed tree, every nesting, every state, whatever follows (`rest`). -/
theorem unselected_deleted (inc : IncludeFn) (cur : Str) (bs : Blocks) (hwf : bs.wf) (s s' : MSt)
    (ls rest : List Line) (hsel : bs.sel (mExec inc cur) (mHolds inc cur) s = .ok (s', ls)) :
    runFrom inc cur s .newLine (bs.flatten ++ rest) = runFrom inc cur s .newLine (ls ++ rest) := by
  have h1 := conditional_selects inc cur bs hwf s rest
  have h2 := conditional_selects inc cur (plainBlocks ls)
    (plainBlocks_wf ls (blocks_sel_plain _ _ bs hwf s s' ls hsel)) s rest
  rw [blocks_sel_run _ _ bs s s' ls hsel] at h1
  rw [plain_run, plain_flatten, blocks_sel_lines _ _ bs
    (fun l hl => mHolds_pure inc cur l (blocks_condLines_dir bs hwf l hl)) s s' ls hsel] at h2
  exact h1.trans h2.symm

/-- `.ifdef NAME` / `.ifndef NAME` look at the `.define` flags ONLY (exact spelling): symbols,
    labels, aliases and macros of that name do not count; the state is left as it is -/
theorem ifdef_reads_flags_only (inc : IncludeFn) (cur : Str) (incs : List Str) (st : PState) (name : Str) (ln : Nat) :
    directiveParse inc cur incs st .ifdef (.opList [.e (.ident name)]) ln =
      .ok (st, incs, if (alookup name st.ctx.defines).isSome then .newLine else .endIf) ∧
    directiveParse inc cur incs st .ifndef (.opList [.e (.ident name)]) ln =
      .ok (st, incs, if (alookup name st.ctx.defines).isSome then .endIf else .newLine) := by
  constructor <;> (unfold directiveParse; dsimp only [List.head?_cons]; cases (alookup name st.ctx.defines).isSome <;> rfl)

/-- `.define NAME` sets exactly that flag -/
theorem define_sets_flag (inc : IncludeFn) (cur : Str) (incs : List Str) (st : PState) (name : Str) (ln : Nat) :
    directiveParse inc cur incs st .define (.opList [.e (.ident name)]) ln =
      .ok ({ st with ctx := { st.ctx with defines := ainsert name (.const 0) st.ctx.defines } }, incs, .newLine) := by
  rfl

/-! non-vacuity: a concrete tree with garbage in the unselected branch -/
def exIf : Line := (0, ".if 0".toList)
def exGarbage : Line := (1, "  garbage here ((".toList)
def exElse : Line := (2, ".else".toList)
def exNop : Line := (3, " nop".toList)
def exEndif : Line := (4, ".endif".toList)
def exTree : Blocks :=
  .cons (.cond exIf (.cons (.plain exGarbage) .nil) .nil (.some exElse (.cons (.plain exNop) .nil)) exEndif) .nil

example : exTree.flatten = [exIf, exGarbage, exElse, exNop, exEndif] := rfl

end Avra.Props.C08
