/-
  C17 — builds are deterministic and independent of each other.

  In the model a build is a FUNCTION of its inputs (source text or main path, file system,
  include directories): `buildStr fs src`, `buildFile fs path dirs`.  There is no process state
  for a build to read or leave behind, and the symbol tables are used through look-ups only.
  What ties this to the Rust code is (a) the inventory theorems below — re-extracted from the
  tree on every run: the only process-wide item is the immutable DEVICES table, no unordered
  container is ever iterated, the only ambient input is the working directory — and (b) the
  check's run: every case built alone in a fresh process, in many orders in one process, and
  concurrently, with the full error text compared.
-/
import Avra.Model.Build
import Avra.Gen.Globals
namespace Avra.Props.C17
open Avra.Model

/-- process-wide state of the crate: exactly one item (the immutable `DEVICES` table behind a
    `LazyLock`); no `static mut`, `thread_local!`, lock, atomic, once-cell or `unsafe` -/
theorem global_state_pinned : Gen.globalStateDigest = 362406626888142898 ∧ Gen.globalState.length = 1 := by decide

/-- no HashMap / HashSet is iterated anywhere outside the unit tests: hash order cannot reach a
    result or an error text -/
theorem no_unordered_iteration : Gen.unorderedIterationsDigest = 357258652861774496 ∧ Gen.unorderedIterations.length = 0 := by decide

/-- ambient inputs (time, randomness, environment, hasher state, threads, user directories): the
    working directory read by `parse_str`, and the user's configuration directory — which only
    the command-line tool (`main.rs`, through `utility::get_standard_includes`) and `build.rs`
    consult; the library's build functions take their include directories as an argument -/
theorem ambient_inputs_pinned : Gen.ambientInputsDigest = 57165076209465547 ∧ Gen.ambientInputs.length = 7 := by decide

/-- every build starts from the same empty context (a fresh `CommonContext::new()`): no symbol,
    alias, flag, label, and the default device -/
theorem fresh_context : initCtx.defines = [] ∧ initCtx.equs = [] ∧ initCtx.labels = [] ∧ initCtx.defs = [] ∧
    initCtx.sets = [] ∧ initCtx.special = [] ∧ initCtx.device = defaultDevice := ⟨rfl, rfl, rfl, rfl, rfl, rfl, rfl⟩

/-- a request to the library -/
inductive Req
  | str (src : Str)
  | file (path : Str) (dirs : List Str)

def serve (fs : Fs) : Req → Out BuildResult
  | .str src => buildStr fs src
  | .file p ds => buildFile fs p ds

/-- a process serving requests one after the other -/
def serveAll (fs : Fs) (rs : List Req) : List (Out BuildResult) := rs.map (serve fs)

/-- whatever was built before and whatever is built afterwards, a request gets the answer it
    gets alone (by construction of the model: `serve` has no state argument — that the Rust
    functions behave like it is what the run checks) -/
theorem history_independent (fs : Fs) (before after : List Req) (r : Req) :
    (serveAll fs (before ++ r :: after))[before.length]? = some (serve fs r) := by
  simp [serveAll]

/-- any reordering of the requests (any interleaving of threads, seen as the order in which the
    builds complete) yields the same answers, reordered the same way -/
theorem order_independent (fs : Fs) (rs rs' : List Req) (h : rs.Perm rs') :
    (serveAll fs rs).Perm (serveAll fs rs') := h.map _

/-- look-up does not depend on the order in which a table stores its entries (for tables with
    one entry per key, which is what `ainsert` maintains) -/
theorem lookup_order_independent {α : Type} (k : Str) : ∀ (l1 l2 : List (Str × α)), l1.Perm l2 →
    (l1.map (·.1)).Nodup → alookup k l1 = alookup k l2 := by
  intro l1 l2 h
  induction h with
  | nil => intro _; rfl
  | cons x _ ih =>
    intro hn
    simp only [List.map_cons, List.nodup_cons] at hn
    simp only [alookup]
    split
    · rfl
    · exact ih hn.2
  | swap x y l =>
    intro hn
    obtain ⟨kx, vx⟩ := x
    obtain ⟨ky, vy⟩ := y
    simp only [List.map_cons, List.nodup_cons, List.mem_cons, not_or] at hn
    simp only [alookup]
    by_cases h1 : ky = k <;> by_cases h2 : kx = k <;> simp [h1, h2]
    exact absurd (h1.trans h2.symm) (fun e => hn.1.1 e)
  | trans h1 _ ih1 ih2 =>
    intro hn
    rw [ih1 hn]
    exact ih2 ((h1.map (·.1)).nodup_iff.mp hn)

/-- `ainsert` keeps one entry per key -/
theorem ainsert_nodup {α : Type} (k : Str) (v : α) (m : List (Str × α)) (h : (m.map (·.1)).Nodup) :
    ((ainsert k v m).map (·.1)).Nodup := by
  unfold ainsert
  simp only [List.map_cons, List.nodup_cons]
  constructor
  · intro hm
    simp only [List.mem_map, List.mem_filter] at hm
    obtain ⟨p, ⟨_, hp⟩, he⟩ := hm
    simp at hp
    exact hp he
  · exact (List.Sublist.map _ List.filter_sublist).nodup h

end Avra.Props.C17
