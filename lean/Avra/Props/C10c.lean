/-
  C10, "labels may be referenced before they are defined": pass 1 runs over the whole segment
  before pass 2 starts, a binding once made is never lost or changed on the way (`label_binding_kept`),
  so the context pass 2 evaluates EVERY item in — also the items before the label — binds the
  label to the position pass 1 gave it (`label_bound_at_end`).
-/
import Avra.Props.C02b
import Avra.Props.C03b
namespace Avra.Props.C10c
open Avra.Model Avra.Props.C02b

/-- `hlow`: the parser delivers label names in lower case -/
theorem bound_label_exists (ctx : Ctx) (name : Str) (v : SegT × Nat) (hlow : lower name = name)
    (h : alookup name ctx.labels = some v) : ctx.exist name = true := by
  unfold Ctx.exist Ctx.getExpr
  rw [hlow, h]
  cases alookup name ctx.defines <;> cases alookup name ctx.equs <;> cases alookup name ctx.sets <;>
    cases alookup name ctx.special <;> simp

theorem label_binding_kept (t : SegT) (limit : Nat) (name : Str) (v : SegT × Nat) (hlow : lower name = name) :
    ∀ (items : List (Nat × Item)) (cur : Nat) (ctx : Ctx) (e : Nat) (its : List (Nat × Item)) (ctx' : Ctx),
    pass1Items t limit items cur ctx = .ok (e, its, ctx') →
    alookup name ctx.labels = some v → alookup name ctx'.labels = some v := by
  refine pass1Items_induction (fun _ _ _ hb => hb) fun ln it _ cur ctx r _ _ _ hs ih hb => ih ?_
  rcases (pass1Step_ok hs).2 with h | ⟨nm, hne, h⟩ <;> rw [h]
  · exact hb
  · have : nm ≠ name := fun he => hne (he ▸ bound_label_exists ctx name v hlow hb)
    rw [alookup_ainsert_other name nm _ _ this]; exact hb

/-- **A label is bound for the whole of pass 2.**  Wherever the label stands in its segment, the
    context pass 1 ends with — the one pass 2 starts from, for every segment — binds it to the
    offset pass 1 had reached in front of it (`C02b.label_lands`: where the following item is
    emitted). -/
theorem label_bound_at_end (t : SegT) (limit : Nat) (pre post : List (Nat × Item)) (ln : Nat) (name : Str)
    (cur : Nat) (ctx : Ctx) (e : Nat) (its : List (Nat × Item)) (ctx' : Ctx) (hlow : lower name = name)
    (h : pass1Items t limit (pre ++ (ln, .label name) :: post) cur ctx = .ok (e, its, ctx')) :
    ∃ e1 its1 ctxA, pass1Items t limit pre cur ctx = .ok (e1, its1, ctxA) ∧
      alookup name ctx'.labels = some (t, e1 % 4294967296) := by
  obtain ⟨e1, its1, ctxA, its2, h1a, h1b, _⟩ := pass1Items_append t limit _ pre cur ctx e its ctx' h
  refine ⟨e1, its1, ctxA, h1a, ?_⟩
  exact label_binding_kept t limit name _ hlow post e1 _ e its2 ctx' (pass1Items_label_ok h1b) (alookup_ainsert_same name _ _)

/-- **Forward (and backward) references.**  In any context that carries the labels pass 1 ended
    with, a reference to the label in any letter case — from an item in front of the label as well
    as from one behind it — evaluates to that position. -/
theorem reference_value (ctx2 : Ctx) (at_ : Nat) (name ref : Str) (seg : SegT) (pos : Nat)
    (hcase : lower ref = name)
    (hb : alookup name ctx2.labels = some (seg, pos))
    (hd : alookup ref ctx2.defines = none) (he : alookup name ctx2.equs = none)
    (hs : alookup name ctx2.sets = none) (hsp : alookup name ctx2.special = none)
    (hpc : name ≠ "pc".toList) :
    eval (Avra.Props.C03b.atPc ctx2 at_) (.ident ref) = .ok (pos : Int) := by
  subst hcase
  exact Avra.Props.C03b.label_operand ctx2 at_ ref seg pos hd he hs hsp hpc hb

end Avra.Props.C10c
