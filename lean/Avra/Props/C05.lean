/-
  C05 — constant expressions evaluate with the documented operator semantics.

  Model: Avra.Model.Eval (`Expr::run`), Avra.Model.Peg (the `precedence!{}` grammar, table from Gen).
  Spec:  Avra.Spec.Eval (operator table on i64, textbook two's complement; precedence levels).
-/
import Avra.Lemmas.EvalBits
import Avra.Lemmas.EvalTotal
import Avra.Model.Peg
namespace Avra.Props.C05
open Avra.Model Avra.Spec Avra.Lemmas

/-- the value a model result denotes (errors are "the build fails") -/
def toOpt : EvalRes → Option Int
  | .ok v => some v
  | _ => none

/-- the shape of the `*_spec` theorems, which spell it out -/
def Agrees (m : EvalRes) (s : Option Int) : Prop := toOpt m = s ∧ ∀ v, m = .ok v → inI64 v = true

theorem agrees_ok {v w : Int} (h : v = w) (hw : inI64 w = true) : Agrees (.ok v) (some w) :=
  ⟨congrArg some h, fun _ hr => by cases hr; exact h ▸ hw⟩

theorem agrees_err (e : EvalErr) : Agrees (.err e) none := ⟨rfl, fun _ hr => by cases hr⟩

theorem agrees_oof : Agrees .oof none := ⟨rfl, fun _ hr => by cases hr⟩

theorem agrees_checked (v : Int) : Agrees (checked v) (if fits v then some v else none) := by
  unfold checked; rw [fits_eq_inI64]
  split
  · exact agrees_ok rfl ‹_›
  · exact agrees_err _

theorem agrees_ite {c : Prop} [Decidable c] {a b : EvalRes} {a' b' : Option Int}
    (ha : c → Agrees a a') (hb : ¬ c → Agrees b b') : Agrees (if c then a else b) (if c then a' else b') := by
  split
  · exact ha ‹_›
  · exact hb ‹_›

/-- a shift count: the model asks whether it is out of range, the table whether it is in range -/
theorem agrees_count {n v w : Int} (h : v = w) (hw : inI64 w = true) :
    Agrees (if n < 0 ∨ n > 63 then .err .arith else .ok v) (if 0 ≤ n ∧ n ≤ 63 then some w else none) := by
  by_cases hc : n < 0 ∨ n > 63
  · rw [if_pos hc, if_neg (by omega)]; exact agrees_err _
  · rw [if_neg hc, if_pos (by omega)]; exact agrees_ok h hw

theorem agrees_bind {m : EvalRes} {s : Option Int} {f : Int → EvalRes} {g : Int → Option Int}
    (h : Agrees m s) (hf : ∀ v, inI64 v = true → Agrees (f v) (g v)) :
    Agrees (match (generalizing := false) m with | .ok v => f v | r => r)
      (match (generalizing := false) s with | some v => g v | none => none) := by
  obtain ⟨rfl, hm⟩ := h
  cases m with
  | ok v => exact hf v (hm v rfl)
  | err e => exact agrees_err e
  | oof => exact agrees_oof

theorem agrees_bind2 {ml mr : EvalRes} {sl sr : Option Int} {f : Int → Int → EvalRes}
    {g : Int → Int → Option Int} (hl : Agrees ml sl) (hr : Agrees mr sr)
    (hf : ∀ a b, inI64 a = true → inI64 b = true → Agrees (f a b) (g a b)) :
    Agrees (match (generalizing := false) ml with
        | .ok a => (match (generalizing := false) mr with | .ok b => f a b | x => x) | x => x)
      (match (generalizing := false) sl, sr with | some a, some b => g a b | _, _ => none) := by
  obtain ⟨rfl, hl⟩ := hl
  obtain ⟨rfl, hr⟩ := hr
  cases ml <;> cases mr <;> first | exact hf _ _ (hl _ rfl) (hr _ rfl) | exact agrees_err _ | exact agrees_oof

theorem b2i_range (b : Bool) : inI64 (b2i b) = true := by cases b <;> decide

theorem tmod_range (a b : Int) (ha : inI64 a = true) (hb : inI64 b = true) : inI64 (Int.tmod a b) = true := by
  rw [inI64_iff] at *
  by_cases hb0 : b = 0
  · subst hb0; simp only [Int.tmod_zero]; exact ha
  · have h := Int.natAbs_tmod a b
    have hlt : (Int.tmod a b).natAbs < b.natAbs := by
      rw [h]; exact Nat.mod_lt _ (by omega)
    omega

theorem bitwise_range {f : Nat → Nat → Nat} (hf : ∀ {x y : Nat}, x < 2 ^ 64 → y < 2 ^ 64 → f x y < 2 ^ 64)
    (a b : Int) : inI64 (s64 (f (u64 a) (u64 b))) = true :=
  s64_range _ (hf (u64_lt a) (u64_lt b))

/-- every binary operator of the model agrees with the documented table, on all i64 operands,
    and yields an i64 -/
theorem binEval_spec (op : BinOp) (a b : Int) (ha : inI64 a = true) (hb : inI64 b = true) :
    toOpt (binEval op a b) = binop op a b ∧ ∀ v, binEval op a b = .ok v → inI64 v = true := by
  cases op
  case add | sub | mul => exact agrees_checked _
  case div => exact agrees_ite (fun _ => agrees_err _) fun _ => agrees_checked _
  case rem =>
    exact agrees_ite (fun _ => agrees_err _) fun _ =>
      agrees_ite (fun _ => agrees_err _) fun _ => agrees_ok rfl (tmod_range a b ha hb)
  case band => exact agrees_ok (i64And_spec a b) (bitwise_range (fun _ h => Nat.and_lt_two_pow _ h) a b)
  case bor => exact agrees_ok (i64Or_spec a b) (bitwise_range Nat.or_lt_two_pow a b)
  case bxor => exact agrees_ok (i64Xor_spec a b) (bitwise_range Nat.xor_lt_two_pow a b)
  case shl => exact agrees_count (i64Shl_spec a _) (s64_range _ (Nat.mod_lt _ (by decide)))
  case shr => exact agrees_count (i64Shr_spec a _ ha) (shr_range a _ ha)
  all_goals exact agrees_ok rfl (b2i_range _)

theorem unEval_spec (op : UnOp) (a : Int) (ha : inI64 a = true) :
    toOpt (unEval op a) = unop op a ∧ ∀ v, unEval op a = .ok v → inI64 v = true := by
  cases op
  case minus => exact agrees_checked _
  case bnot => exact agrees_ok (i64Not_spec a ha) (by rw [inI64_iff] at ha ⊢; omega)
  case lnot => exact agrees_ok rfl (b2i_range _)

theorem log2_eq (f : Nat) : ∀ n, log2Loop f n = bitLength f n := by
  induction f with
  | zero => intro n; rfl
  | succ f ih =>
    intro n
    simp only [log2Loop, bitLength]
    by_cases h : n = 0
    · simp [h]
    · have : n > 0 := Nat.pos_of_ne_zero h
      simp [h, this, ih]

theorem bitLength_le (f : Nat) : ∀ n, bitLength f n ≤ f := by
  induction f with
  | zero => simp [bitLength]
  | succ f ih =>
    intro n
    simp only [bitLength]
    split
    · omega
    · have := ih (n / 2); omega

theorem bits_range (v : Int) (lo n : Nat) (hn : n ≤ 16) : inI64 (bitsOf v lo n) = true := by
  rw [inI64_iff]; unfold bitsOf
  have : u64 v / 2 ^ lo % 2 ^ n < 2 ^ 16 :=
    Nat.lt_of_lt_of_le (Nat.mod_lt _ (Nat.two_pow_pos n)) (Nat.pow_le_pow_right (by decide) hn)
  omega

/-- the byte/word functions select the documented bits, for every i64 argument.  The model and the
    table are the same chain of name tests, so they are compared arm by arm (`agrees_ite`; splitting
    the chain with `split` instead rewrites the whole of it at every step and is very slow). -/
theorem funcEval_spec (name : Str) (v : Int) (hv : inI64 v = true) :
    toOpt (funcEval name v) = Spec.func name v ∧ ∀ r, funcEval name v = .ok r → inI64 r = true := by
  have bits : ∀ lo n x, n ≤ 16 → x = u64 v / 2 ^ lo % 2 ^ n → Agrees (.ok (x : Int)) (some (bitsOf v lo n)) :=
    fun lo n x hn hx => agrees_ok (congrArg _ hx) (bits_range v lo n hn)
  refine agrees_ite (fun _ => bits 0 8 _ (by decide) (by simp [asU, u64, two64])) fun _ => ?_
  refine agrees_ite (fun _ => bits 8 8 _ (by decide) rfl) fun _ => ?_
  refine agrees_ite (fun _ => bits 16 8 _ (by decide) rfl) fun _ => ?_
  refine agrees_ite (fun _ => bits 24 8 _ (by decide) rfl) fun _ => ?_
  refine agrees_ite (fun _ => bits 0 16 _ (by decide) (by simp [asU, u64, two64])) fun _ => ?_
  refine agrees_ite (fun _ => bits 16 16 _ (by decide) rfl) fun _ => ?_
  refine agrees_ite (fun _ => bits 16 5 _ (by decide) rfl) fun _ => ?_
  refine agrees_ite (fun _ => ?_) fun _ => agrees_ite (fun _ => ?_) fun _ => agrees_err _
  · have hs := i64Shl_spec 1 v.toNat
    rw [show u64 1 = 1 from rfl, Nat.one_mul] at hs
    exact agrees_count hs (s64_range _ (Nat.mod_lt _ (by decide)))
  · have := bitLength_le 65 (u64 v)
    exact agrees_ok (congrArg _ (log2_eq 65 _)) (by rw [inI64_iff]; omega)

/-- literals of an expression fit an i64 (the grammar's `{? }` actions guarantee it) -/
def constsOk : Expr → Prop
  | .ident _ => True
  | .const v => inI64 v = true
  | .func n a => constsOk n ∧ constsOk a
  | .bin _ l r => constsOk l ∧ constsOk r
  | .un _ e => constsOk e

/-- C05, evaluation: for EVERY expression tree (all 18 binary and 3 unary operators, the
    byte/word functions, any nesting) and every assignment of i64 values (or failure) to its
    symbols, the model of `Expr::run` yields exactly the value the documented operator table
    defines, and fails exactly when the table says the build must fail (division/remainder by
    zero, arithmetic overflow, shift count outside 0..63, unknown function, failing symbol). -/
theorem eval_eq_spec (sym : Str → EvalRes) (hs : ∀ n v, sym n = .ok v → inI64 v = true) :
    ∀ e : Expr, constsOk e →
      toOpt (evalWith sym e) = Spec.eval (fun n => toOpt (sym n)) e ∧
      ∀ v, evalWith sym e = .ok v → inI64 v = true := by
  intro e
  induction e with
  | ident n => intro _; exact ⟨rfl, hs n⟩
  | const v => intro hc; exact agrees_ok rfl hc
  | func nm arg _ iha =>
    intro hc
    cases nm with
    | ident name => exact agrees_bind (iha hc.2) fun v hv => funcEval_spec (lower name) v hv
    | _ => exact agrees_err _
  | bin op l r ihl ihr => intro hc; exact agrees_bind2 (ihl hc.1) (ihr hc.2) (binEval_spec op)
  | un op e ih => intro hc; exact agrees_bind (ih hc) fun v hv => unEval_spec op v hv

/-- the evaluator never runs out of anything: its results are values or errors -/
theorem evalWith_total (sym : Str → EvalRes) (hs : ∀ n, sym n ≠ .oof) : ∀ e, evalWith sym e ≠ .oof :=
  evalWith_ne_oof sym hs

/-- Gen obligation: the `precedence!{}` block extracted from document.rs is the documented table:
    every binary operator appears exactly once, as a left-associative infix operator whose textual
    level order is the documented one (looser operators on earlier levels); the three unary
    operators are prefix operators on a level tighter than every binary operator and may be
    nested; the atom alternatives are the five the model implements. -/
def opTableOk : Bool :=
  -- every binary operator: exactly one entry, infixL, right text, level order = documented
  (BinOp.all.all fun b =>
    (Peg.infixOps.filter fun e => e.2.1 == b).length == 1 &&
    Peg.infixOps.any fun e => e.2.1 == b && e.1 == b.text && e.2.2.2 == e.2.2.1 + 1) &&
  (BinOp.all.all fun b1 => BinOp.all.all fun b2 =>
    Peg.infixOps.all fun e1 => Peg.infixOps.all fun e2 =>
      !(e1.2.1 == b1 && e2.2.1 == b2) ||
        (decide (Spec.level b1 < Spec.level b2) == decide (e1.2.2.1 < e2.2.2.1))) &&
  Peg.infixOps.length == 18 &&
  -- unary operators: prefix, operand at their own level (nestable), tighter than every infix level
  (UnOp.all.all fun u =>
    Peg.prefixOps.any fun e => e.2.1 == u && e.1 == u.text &&
      Peg.infixOps.all fun i => decide (i.2.2.1 < e.2.2)) &&
  Peg.prefixOps.length == 3 &&
  Gen.atomsAsModelled

theorem all_pairs_of_entries {α β : Type} [BEq β] [LawfulBEq β] (A : List β) (L : List α) (f : α → β)
    (Q : β → β → α → α → Bool) (h : (L.all fun e1 => L.all fun e2 => Q (f e1) (f e2) e1 e2) = true) :
    (A.all fun b1 => A.all fun b2 => L.all fun e1 => L.all fun e2 =>
      !(f e1 == b1 && f e2 == b2) || Q b1 b2 e1 e2) = true := by
  simp only [List.all_eq_true] at h ⊢
  intro b1 _ b2 _ e1 he1 e2 he2
  by_cases hb : (f e1 == b1 && f e2 == b2) = true
  · simp only [Bool.and_eq_true, beq_iff_eq] at hb
    obtain ⟨rfl, rfl⟩ := hb
    simp [h e1 he1 e2 he2]
  · simp [hb]

/-- the level comparison of `opTableOk` is quadratic in the table through `all_pairs_of_entries`
    (evaluated as written it is 18⁴ comparisons); the rest is evaluated as it stands -/
theorem op_table_documented : opTableOk = true := by
  have h := all_pairs_of_entries BinOp.all Peg.infixOps (·.2.1)
    (fun b1 b2 e1 e2 => decide (Spec.level b1 < Spec.level b2) == decide (e1.2.2.1 < e2.2.2.1))
    (by decide +kernel)
  unfold opTableOk
  rw [h]
  decide +kernel

/-! non-vacuity -/
example : toOpt (eval { device := default } (.bin .ne (.const 3) (.const 2))) = some 1 := by decide
example : Spec.eval (fun _ => none) (.un .bnot (.const 0)) = some (-1) := by decide
example : Spec.eval (fun _ => none) (.bin .shl (.const 1) (.const 64)) = none := by decide
example : Spec.eval (fun _ => none) (.bin .div (.const (-9223372036854775808)) (.const (-1))) = none := by decide

end Avra.Props.C05
