/-
  C02 in the property's own words: the value of a label anywhere in a code segment is the word
  address right behind the bytes pass 2 emits for the items before it (`label_lands`), from the
  lockstep of the two passes (`C02.lockstep`) and the fact that both passes work through a
  list piece by piece (`pass1Items_append`, `pass2Items_append`).
-/
import Avra.Props.C02
namespace Avra.Props.C02b
open Avra.Model Avra.Props.C02

/-- pass 1 over a list that is cut in two: the first part alone ends where the second goes on -/
theorem pass1Items_append (t : SegT) (limit : Nat) (rest : List (Nat × Item)) : ∀ (pre : List (Nat × Item)) (cur : Nat) (ctx : Ctx)
    (e : Nat) (its : List (Nat × Item)) (ctx' : Ctx),
    pass1Items t limit (pre ++ rest) cur ctx = .ok (e, its, ctx') →
    ∃ e1 its1 ctx1 its2, pass1Items t limit pre cur ctx = .ok (e1, its1, ctx1) ∧
      pass1Items t limit rest e1 ctx1 = .ok (e, its2, ctx') ∧ its = its1 ++ its2 := by
  intro pre
  induction pre with
  | nil =>
    intro cur ctx e its ctx' h
    -- `rest` ran from `cur`, so `cur` is within the limit
    have hc : ¬ cur > limit := by
      intro hc
      cases rest with
      | nil => simp [pass1Items_nil, hc, noLineErr] at h
      | cons x xs => obtain ⟨ln, it⟩ := x; simp [pass1Items_cons, hc, lineErr] at h
    exact ⟨cur, [], ctx, its, by simp [pass1Items_nil, hc], h, rfl⟩
  | cons x pre ih =>
    obtain ⟨ln, it⟩ := x
    intro cur ctx e its ctx' h
    obtain ⟨hc, v, its', hs, rfl, hr⟩ := pass1Items_cons_ok h
    obtain ⟨e1, its1, ctx1, its2, h1, h2, rfl⟩ := ih _ _ _ _ _ hr
    exact ⟨e1, v.2.1 ++ its1, ctx1, its2, by simp [pass1Items_cons, hc, hs, h1, prependItems], h2, by simp⟩

/-- pass 2 over a list that is cut in two -/
theorem pass2Items_append (t : SegT) (its2 : List (Nat × Item)) : ∀ (its1 : List (Nat × Item)) (cur : Nat) (acc : List Nat)
    (ctx : Ctx) (bytes : List Nat) (ctx' : Ctx),
    pass2Items t (its1 ++ its2) cur acc ctx = .ok (bytes, ctx') →
    ∃ cur1 b1 c1, pass2Items t its1 cur acc ctx = .ok (b1, c1) ∧ pass2Items t its2 cur1 b1 c1 = .ok (bytes, ctx') := by
  intro its1
  induction its1 with
  | nil => intro cur acc ctx bytes ctx' h; exact ⟨cur, acc, ctx, by simp [pass2Items], h⟩
  | cons x pre ih =>
    intro cur acc ctx bytes ctx' h
    rw [List.cons_append, pass2Items_cons] at h
    obtain ⟨v, hs, h⟩ := Out.bind_eq_ok h
    rw [pass2Items_cons, hs]
    exact ih _ _ _ _ _ h

theorem noCustom_prefix : ∀ (pre rest : List (Nat × Item)), noCustom (pre ++ rest) → noCustom pre
  | [], _, _ => trivial
  | (ln, it) :: pre, rest, h =>
    have h := (noCustom_cons ln it (pre ++ rest)).1 h
    (noCustom_cons ln it pre).2 ⟨h.1, noCustom_prefix pre rest h.2⟩

theorem pass1Items_label_ok {t : SegT} {limit ln : Nat} {name : Str} {post : List (Nat × Item)} {cur : Nat} {ctx : Ctx}
    {r : Nat × List (Nat × Item) × Ctx} (h : pass1Items t limit ((ln, .label name) :: post) cur ctx = .ok r) :
    pass1Items t limit post cur { ctx with labels := ainsert name (t, cur % 4294967296) ctx.labels } = .ok r := by
  obtain ⟨e, its, c⟩ := r
  obtain ⟨-, r, its', hs, rfl, hr⟩ := pass1Items_cons_ok h
  simp only [pass1Step] at hs
  split at hs <;> cases hs
  simpa using hr

theorem label_lands_at (t : SegT) (ht : t ≠ .data) (limit : Nat) (pre post : List (Nat × Item)) (ln : Nat) (name : Str)
    (cur : Nat) (ctx1 : Ctx) (e : Nat) (its : List (Nat × Item)) (ctx1' : Ctx) (acc : List Nat) (ctx2 : Ctx)
    (bytes : List Nat) (ctx2' : Ctx)
    (hnc : t = .code → noCustom (pre ++ (ln, .label name) :: post)) (hdev : t = .code → ctx2.device = ctx1.device)
    (h1 : pass1Items t limit (pre ++ (ln, .label name) :: post) cur ctx1 = .ok (e, its, ctx1'))
    (h2 : pass2Items t its cur acc ctx2 = .ok (bytes, ctx2')) :
    ∃ before its1 its2 e1 ctxA c1 cur1,
      its = its1 ++ its2 ∧
      pass1Items t limit pre cur ctx1 = .ok (e1, its1, ctxA) ∧
      pass1Items t limit post e1 { ctxA with labels := ainsert name (t, e1 % 4294967296) ctxA.labels } = .ok (e, its2, ctx1') ∧
      pass2Items t its1 cur acc ctx2 = .ok (acc ++ before, c1) ∧
      pass2Items t its2 cur1 (acc ++ before) c1 = .ok (bytes, ctx2') ∧
      cur ≤ e1 ∧ before.length = unitOf t * (e1 - cur) := by
  obtain ⟨e1, its1, ctxA, its2, h1a, h1b, rfl⟩ := pass1Items_append t limit _ pre cur ctx1 e its ctx1' h1
  obtain ⟨cur1, b1, c1, h2a, h2b⟩ := pass2Items_append t its2 its1 cur acc ctx2 bytes ctx2' h2
  obtain ⟨before, rfl, hle, hl⟩ := lockstep t ht limit pre cur ctx1 e1 its1 ctxA h1a
    (fun h => noCustom_prefix pre _ (hnc h)) acc ctx2 (b1, c1) hdev h2a
  exact ⟨before, its1, its2, e1, ctxA, c1, cur1, rfl, h1a, pass1Items_label_ok h1b, h2a, h2b, hle, hl⟩

/-- **C02 in the property's words, for a label anywhere in a code segment**: "the value of a
    label equals the position at which the item following it is actually emitted".  Pass 1 over
    `pre ++ [label] ++ post` binds the label to `e1`, the offset it has reached after `pre`; pass 2
    emits for the items before the label the bytes `before`, an even number of them, with
    `e1 = cur + before.length / 2` — the label is the word address right behind them — and goes
    on with what follows the label from exactly that accumulator: the following item's bytes
    are appended at byte offset `2·(e1 − cur)` of the segment, nothing in between. -/
theorem label_lands (limit : Nat) (pre post : List (Nat × Item)) (ln : Nat) (name : Str) (cur : Nat) (ctx1 : Ctx)
    (e : Nat) (its : List (Nat × Item)) (ctx1' : Ctx) (acc : List Nat) (ctx2 : Ctx) (bytes : List Nat) (ctx2' : Ctx)
    (hnc : noCustom (pre ++ (ln, .label name) :: post)) (hdev : ctx2.device = ctx1.device)
    (h1 : pass1Items .code limit (pre ++ (ln, .label name) :: post) cur ctx1 = .ok (e, its, ctx1'))
    (h2 : pass2Items .code its cur acc ctx2 = .ok (bytes, ctx2')) :
    ∃ before its1 its2 e1 ctxA c1 cur1,
      its = its1 ++ its2 ∧
      pass1Items .code limit pre cur ctx1 = .ok (e1, its1, ctxA) ∧
      pass1Items .code limit post e1
        { ctxA with labels := ainsert name (.code, e1 % 4294967296) ctxA.labels } = .ok (e, its2, ctx1') ∧
      pass2Items .code its1 cur acc ctx2 = .ok (acc ++ before, c1) ∧
      pass2Items .code its2 cur1 (acc ++ before) c1 = .ok (bytes, ctx2') ∧
      before.length % 2 = 0 ∧ e1 = cur + before.length / 2 := by
  obtain ⟨before, its1, its2, e1, ctxA, c1, cur1, h⟩ := label_lands_at .code (by decide) limit pre post ln name cur ctx1 e
    its ctx1' acc ctx2 bytes ctx2' (fun _ => hnc) (fun _ => hdev) h1 h2
  simp only [unitOf] at h
  exact ⟨before, its1, its2, e1, ctxA, c1, cur1, h.1, h.2.1, h.2.2.1, h.2.2.2.1, h.2.2.2.2.1, by omega, by omega⟩

/-- … and in EEPROM, in bytes: the label is the byte address right behind what pass 2 emits for
    the items before it (no padding there) -/
theorem label_lands_eeprom (limit : Nat) (pre post : List (Nat × Item)) (ln : Nat) (name : Str) (cur : Nat) (ctx1 : Ctx)
    (e : Nat) (its : List (Nat × Item)) (ctx1' : Ctx) (acc : List Nat) (ctx2 : Ctx) (bytes : List Nat) (ctx2' : Ctx)
    (h1 : pass1Items .eeprom limit (pre ++ (ln, .label name) :: post) cur ctx1 = .ok (e, its, ctx1'))
    (h2 : pass2Items .eeprom its cur acc ctx2 = .ok (bytes, ctx2')) :
    ∃ before its1 its2 e1 ctxA c1 cur1,
      its = its1 ++ its2 ∧
      pass1Items .eeprom limit pre cur ctx1 = .ok (e1, its1, ctxA) ∧
      pass1Items .eeprom limit post e1
        { ctxA with labels := ainsert name (.eeprom, e1 % 4294967296) ctxA.labels } = .ok (e, its2, ctx1') ∧
      pass2Items .eeprom its1 cur acc ctx2 = .ok (acc ++ before, c1) ∧
      pass2Items .eeprom its2 cur1 (acc ++ before) c1 = .ok (bytes, ctx2') ∧
      e1 = cur + before.length := by
  obtain ⟨before, its1, its2, e1, ctxA, c1, cur1, h⟩ := label_lands_at .eeprom (by decide) limit pre post ln name cur ctx1 e
    its ctx1' acc ctx2 bytes ctx2' (fun h => by cases h) (fun h => by cases h) h1 h2
  simp only [unitOf] at h
  exact ⟨before, its1, its2, e1, ctxA, c1, cur1, h.1, h.2.1, h.2.2.1, h.2.2.2.1, h.2.2.2.2.1, by omega⟩

end Avra.Props.C02b
