/-
  C03 — relative branches and jumps reach exactly the target that was named.
-/
import Avra.Props.C04
namespace Avra.Props.C03
open Avra.Isa Avra.Lemmas Avra.Props.Enc

/-- sign extension of a `bits`-bit field (the decoder's view of a displacement) -/
def signExt (bits : Nat) (f : Nat) : Int :=
  if f < 2 ^ (bits - 1) then (f : Int) else (f : Int) - 2 ^ bits

theorem signExt_twos (n : Nat) (hn : 0 < n) (k : Int) (h : -(2 ^ (n - 1) : Int) ≤ k ∧ k < 2 ^ (n - 1)) :
    signExt n (twos n k) = k := by
  obtain ⟨m, rfl⟩ : ∃ m, n = m + 1 := ⟨n - 1, by omega⟩
  unfold signExt twos
  simp only [Nat.add_sub_cancel, Int.pow_succ] at *
  have hc : ((2 ^ m : Nat) : Int) = 2 ^ m := by simp
  generalize (2 : Int) ^ m = p at *
  by_cases hk : 0 ≤ k
  · rw [Int.emod_eq_of_lt hk (by omega), if_pos (by omega)]; omega
  · have : k % (p * 2) = k + p * 2 := by
      rw [← Int.add_mul_emod_self_left k (p * 2) 1, Int.mul_one]
      exact Int.emod_eq_of_lt (by omega) (by omega)
    rw [this, if_neg (by omega)]; omega

theorem signExt_twos7 (k : Int) (h : -64 ≤ k ∧ k ≤ 63) : signExt 7 (twos 7 k) = k :=
  signExt_twos 7 (by decide) k (by omega)

theorem signExt_twos12 (k : Int) (h : -2048 ≤ k ∧ k ≤ 2047) : signExt 12 (twos 12 k) = k :=
  signExt_twos 12 (by decide) k (by omega)

/-- which mnemonics are relative: the 18 named conditions, brbs/brbc, rjmp, rcall -/
inductive RelOp
  | br (b : BranchT) | rjmp | rcall

/-- C03 for conditional branches, at every address and for every i64 target: the build of the
    instruction succeeds iff the displacement `d = target − (address + 1)` fits −64..63, and then
    the emitted word is the ISA's `brbs/brbc s, d` whose 7-bit field sign-extends to exactly `d`
    (never a wrapped or truncated offset). -/
theorem branch_exact (b : Bool) (t : BranchT) (clear : Bool) (s : Nat) (hb : branchFlag t = some (clear, s))
    (addr : Nat) (target : Int) :
    mWords b (.br t) [.val target] addr =
      (if -64 ≤ relOf addr target ∧ relOf addr target ≤ 63
       then some (encode (.brb clear s (relOf addr target))) else none) ∧
    (-64 ≤ relOf addr target ∧ relOf addr target ≤ 63 →
      signExt 7 (twos 7 (relOf addr target)) = relOf addr target ∧
      target = (addr : Int) + 1 + relOf addr target) := by
  constructor
  · rw [model_eq_spec b (.br t) _ addr nofun (by simp [regsOk])]
    have : surface b (.br t) [.val target] addr = sBr t addr [.val target] := by
      cases t <;> rfl
    simp only [sWords, this, sBr, hb, inRange, Bool.and_eq_true, decide_eq_true_eq]
    split <;> rfl
  · intro h
    exact ⟨signExt_twos7 _ h, by unfold relOf; omega⟩

/-- the same for brbs / brbc with an explicit flag number -/
theorem brb_exact (b : Bool) (clear : Bool) (addr : Nat) (s target : Int) :
    mWords b (.br (if clear then .bc else .bs)) [.val s, .val target] addr =
      (if (0 ≤ s ∧ s ≤ 7) ∧ (-64 ≤ relOf addr target ∧ relOf addr target ≤ 63)
       then some (encode (.brb clear s.toNat (relOf addr target))) else none) := by
  rw [model_eq_spec b _ _ addr (by cases clear <;> nofun) (by simp [regsOk])]
  have : surface b (.br (if clear then .bc else .bs)) [.val s, .val target] addr =
      sBrb clear addr [.val s, .val target] := by cases clear <;> rfl
  simp only [sWords, this, sBrb, inRange, Bool.and_eq_true, decide_eq_true_eq]
  split <;> rfl

/-- C03 for rjmp / rcall: ok iff −2048 ≤ d ≤ 2047, exact 12-bit displacement -/
theorem rjmp_exact (b : Bool) (call : Bool) (addr : Nat) (target : Int) :
    mWords b (if call then .rcall else .rjmp) [.val target] addr =
      (if -2048 ≤ relOf addr target ∧ relOf addr target ≤ 2047
       then some (encode (.rel call (relOf addr target))) else none) ∧
    (-2048 ≤ relOf addr target ∧ relOf addr target ≤ 2047 →
      signExt 12 (twos 12 (relOf addr target)) = relOf addr target ∧
      target = (addr : Int) + 1 + relOf addr target) := by
  constructor
  · rw [model_eq_spec b _ _ addr (by cases call <;> nofun) (by simp [regsOk])]
    have : surface b (if call then .rcall else .rjmp) [.val target] addr = sRel call addr [.val target] := by
      cases call <;> rfl
    simp only [sWords, this, sRel, inRange, Bool.and_eq_true, decide_eq_true_eq]
    split <;> rfl
  · intro h
    exact ⟨signExt_twos12 _ h, by unfold relOf; omega⟩

/-- the field really sits where the ISA says: the decoder's extraction of bits 9..3 of the
    emitted branch word gives back the two's-complement field (the pattern word is its constant
    bits plus `s` plus `8 * f`) -/
theorem branch_field_position : ∀ clear : Bool, ∀ s, s < 8 → ∀ f, f < 128 →
    (word (if clear then pat!"1111 01kk kkkk ksss" else pat!"1111 00kk kkkk ksss")
      [(fld!"s", s), (fld!"k", f)]) / 8 % 128 = f := by
  intro clear s hs f hf
  have hw : word (if clear then pat!"1111 01kk kkkk ksss" else pat!"1111 00kk kkkk ksss")
      [(fld!"s", s), (fld!"k", f)] =
      (if clear then 0xf400 else 0xf000) + s / 2 ^ 0 % 2 ^ 3 * 2 ^ 0 + f / 2 ^ 0 % 2 ^ 7 * 2 ^ 3 := by
    cases clear <;> rfl
  rw [hw]; split <;> omega

/-! non-vacuity -/
example : mWords false (.br .eq) [.val 64] 0 = some [0xf1f9] := by decide     -- d = 63: accepted
example : mWords false (.br .eq) [.val 65] 0 = none := by decide              -- d = 64: rejected
example : mWords false .rjmp [.val (-2047)] 0 = some [0xc800] := by decide    -- d = −2048
example : mWords false .rjmp [.val (-2048)] 0 = none := by decide             -- d = −2049

end Avra.Props.C03
