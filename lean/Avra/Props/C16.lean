/-
  C16 — the assembler returns: a result or an error value, for every input.

  What the model can carry of this property:
   * every function of the model is total (Lean accepts the definitions: structural recursion,
     or recursion on an explicit bound) — the line loop, the skipper, the three passes, the
     evaluator (`evalWith` structural, symbol expansion bounded by MAX_SYMBOL_DEPTH);
   * recursion that follows the INPUT is bounded by constants of the source: include nesting by
     MAX_INCLUDE_DEPTH, macro nesting by MAX_MACRO_DEPTH, symbol expansion by MAX_SYMBOL_DEPTH
     (`limits_pinned` ties the model's constants to the ones extracted from the tree);
   * the model marks every place where the Rust code could panic on its own (`unwrap`, missing
     table row) with the outcome `.panic`; `build_never_panics` proves that NO input — source
     text, file system, include directories — reaches one.
  Stack depth, allocation and arithmetic-overflow panics are properties of the compiled code and
  are observed by the check's isolated-worker run, not by these theorems.

  The theorems are instances of the lemmas of Lemmas/Outcome (one per function of the build, for
  any set `Q` of failures): `Q := no panic` here, `Q := an error` for `build_always_answers`.
-/
import Avra.Lemmas.Outcome
namespace Avra.Props.C16
open Avra.Model

theorem limits_pinned :
    maxSymbolDepth = Gen.maxSymbolDepth ∧ macroDepth = Gen.maxMacroDepth ∧ includeDepth = Gen.maxIncludeDepth ∧
    macroLine = Gen.maxMacroLine := by
  decide

def NoPanic {α : Type} (r : Out α) : Prop := ∀ s, r ≠ .panic s

theorem noPanic_ok {α : Type} (v : α) : NoPanic (Out.ok v) := fun _ h => by cases h
theorem noPanic_error {α : Type} (e : Err) : NoPanic (Out.error e : Out α) := fun _ h => by cases h
theorem noPanic_oof {α : Type} : NoPanic (Out.oof : Out α) := fun _ h => by cases h

def notPanic : Fail → Prop
  | .panic _ => False
  | _ => True

theorem noPanic_iff {α : Type} (r : Out α) : NoPanic r ↔ r.FailsIn notPanic := by
  constructor
  · intro h; cases r <;> first | trivial | exact h _ rfl
  · intro h s hs; exact h.panic hs

theorem directive_no_panic (inc : IncludeFn) (hinc : ∀ p i st, NoPanic (inc p i st)) (cur : Str) (incs : List Str)
    (st : PState) (d : Directive) (ops : DirectiveOps) (ln : Nat) : NoPanic (directiveParse inc cur incs st d ops ln) :=
  (noPanic_iff _).2 <|
    directiveParse_sat (fun _ => True) inc cur incs st d ops ln (fun _ => trivial) (fun _ _ _ => trivial)
      fun _ p => (noPanic_iff _).1 (hinc p incs st)

theorem lineStep_no_panic (inc : IncludeFn) (hinc : ∀ p i st, NoPanic (inc p i st)) (cur : Str) (incs : List Str)
    (st : PState) (idx : Nat) (text : Str) (re : Bool) : NoPanic (lineStep inc cur incs st idx text re) :=
  (noPanic_iff _).2 <|
    lineStep_sat (fun _ => True) inc cur incs st idx text re (fun _ => trivial) (fun _ _ _ => trivial)
      fun _ p st' _ => (noPanic_iff _).1 (hinc p incs st')

theorem loop_no_panic (inc : IncludeFn) (hinc : ∀ p i st, NoPanic (inc p i st)) (cur : Str) :
    ∀ (f : Nat) (incs : List Str) (st : PState) (ni : NextItem) (ls : List (Nat × Str)),
      NoPanic (parseIterWith inc cur f incs st ni ls) :=
  fun f incs st ni ls => (noPanic_iff _).2 <|
    parseIterWith_fails inc cur (fun _ => trivial) (fun p i st => (noPanic_iff _).1 (hinc p i st)) f incs st ni ls
      fun _ => trivial

theorem file_no_panic (fs : Fs) : ∀ (d : Nat) (p : Str) (i : List Str) (st : PState), NoPanic (parseFileAt fs d p i st) :=
  fun d p i st => (noPanic_iff _).2 <| parseFileAt_fails fs (fun _ => trivial) d p i st

theorem macroExpand_no_panic (fs : Fs) (macros : List (Str × List (Nat × Str))) (st : PState) (ln : Nat)
    (name : Str) (ops : List IOp) : NoPanic (macroExpand fs macros st ln name ops) :=
  (noPanic_iff _).2 <| macroExpand_fails fs macros st ln name ops fun _ => trivial

theorem pass0Segs_no_panic (inner : PState → List (Nat × Item) → Out PState) (hin : ∀ st its, NoPanic (inner st its)) :
    ∀ (segs : List Segment) (st : PState), NoPanic (pass0Segs inner st segs) :=
  fun segs st => (noPanic_iff _).2 <| pass0Segs_fails inner (fun st its => (noPanic_iff _).1 (hin st its)) segs st

theorem pass0Items_no_panic (fs : Fs) (macros : List (Str × List (Nat × Str))) (allow : Bool)
    (inner : PState → List (Nat × Item) → Out PState) (hin : ∀ st its, NoPanic (inner st its)) :
    ∀ (its : List (Nat × Item)) (st : PState), NoPanic (pass0Items fs macros allow inner st its) :=
  fun its st => (noPanic_iff _).2 <|
    pass0Items_fails fs macros allow inner (fun _ => trivial) (fun _ st its => (noPanic_iff _).1 (hin st its)) its st

theorem pass0At_no_panic (fs : Fs) (macros : List (Str × List (Nat × Str))) :
    ∀ (d : Nat) (st : PState) (its : List (Nat × Item)), NoPanic (pass0At fs macros d st its) :=
  fun d st its => (noPanic_iff _).2 <| pass0At_fails fs macros (fun _ => trivial) d st its

theorem pass0_no_panic (fs : Fs) (parsed : ParseResult) (ctx : Ctx) : NoPanic (pass0 fs parsed ctx) :=
  (noPanic_iff _).2 <| pass0_fails fs parsed ctx fun _ => trivial

/-- the opcode table has a row for every operation on both cores -/
theorem info_total (avr8l : Bool) (op : Op) : (info avr8l op).isSome = true := Avra.Lemmas.info_isSome avr8l op

theorem pass1Items_no_panic (t : SegT) (limit : Nat) : ∀ (its : List (Nat × Item)) (cur : Nat) (ctx : Ctx),
    NoPanic (pass1Items t limit its cur ctx) :=
  fun its cur ctx => (noPanic_iff _).2 <| pass1Items_fails t limit trivial its cur ctx fun _ _ _ => trivial

theorem pass1go_no_panic (messages : List Str) (dev : Device) : ∀ (segs : List Segment) (a b c : Nat)
    (out : List Segment) (cx : Ctx), NoPanic (pass1.go messages dev segs a b c out cx) :=
  fun segs a b c out cx => (noPanic_iff _).2 <|
    pass1go_fails messages dev trivial trivial segs a b c out cx fun _ _ _ _ _ => trivial

theorem pass1_no_panic (segs : List Segment) (messages : List Str) (ctx : Ctx) : NoPanic (pass1 segs messages ctx) :=
  pass1go_no_panic _ _ _ _ _ _ _ _

theorem pass2Items_no_panic (t : SegT) : ∀ (its : List (Nat × Item)) (cur : Nat) (acc : List Nat) (ctx : Ctx),
    NoPanic (pass2Items t its cur acc ctx) :=
  fun its cur acc ctx => (noPanic_iff _).2 <| pass2Items_fails t its cur acc ctx fun _ _ _ => trivial

theorem pass2go_no_panic (p1 : Pass1Result) : ∀ (segs : List Segment) (code ee : List Nat) (ctx : Ctx),
    NoPanic (pass2.go p1 segs code ee ctx) :=
  fun segs code ee ctx => (noPanic_iff _).2 <| pass2go_fails p1 segs code ee ctx fun _ _ _ _ _ => trivial

theorem pass2_no_panic (p1 : Pass1Result) : NoPanic (pass2 p1) := pass2go_no_panic _ _ _ _ _

/-- **C16, the part a theorem can carry.**  For EVERY source text, every file system and every
    list of include directories, `build_str` and `build_file` of the model return an `Ok`, an
    `Err` — or give up on their own explicit bound (`oof`, which the correspondence run never
    observes) — and never reach one of the places where the Rust code would panic by itself. -/
theorem build_never_panics (fs : Fs) (src path : Str) (incs : List Str) :
    NoPanic (buildStr fs src) ∧ NoPanic (buildFile fs path incs) :=
  ⟨(noPanic_iff _).2 (buildStr_fails fs src fun _ => trivial),
   (noPanic_iff _).2 (buildFile_fails fs path incs fun _ => trivial)⟩

/-! ### termination within the explicit bounds -/

/-- expression evaluation never gives up: it is bounded by the size of the expression and by
    MAX_SYMBOL_DEPTH -/
theorem eval_no_oof (c : Ctx) (e : Expr) : eval c e ≠ .oof := Avra.Lemmas.eval_ne_oof c e

/-- the fuel handed to the expression parser (`exprFuel`, linear in the length of the line) and
    to the operand lists always suffices -/
def FuelAdequate : Prop := ∀ s : Str, (parseLine s).2 = false

/-- ... and it does: `Lemmas.Fuel.line_no_oof` (what a rule leaves over is never longer than what
    it got; with `n * K` fuel every input shorter than `n` parses without running out, `K` = the
    size of the regenerated operator tables + 8; every list element costs a comma) -/
theorem fuel_adequate : FuelAdequate := parseLine_flag

def isError : Fail → Prop
  | .error _ => True
  | _ => False

theorem answers_of {α : Type} {r : Out α} (h : r.FailsIn isError) : (∃ b, r = .ok b) ∨ (∃ e, r = .error e) := by
  cases r with
  | ok b => exact Or.inl ⟨b, rfl⟩
  | error e => exact Or.inr ⟨e, rfl⟩
  | panic s => exact h.elim
  | oof => exact h.elim

/-- **the model always answers**: for every source text, file system and include-directory list
    `buildStr` returns a result or an error — never a panic, never "out of fuel": the line loop
    ends within "number of lines + 1" iterations, includes within MAX_INCLUDE_DEPTH, macro
    expansion within MAX_MACRO_DEPTH, symbol expansion within MAX_SYMBOL_DEPTH (`eval_no_oof`),
    the parser within its fuel (`fuel_adequate`), and the three passes are structural recursions -/
theorem build_always_answers (fs : Fs) (src path : Str) (incs : List Str) :
    (∃ b, buildStr fs src = .ok b) ∨ (∃ e, buildStr fs src = .error e) :=
  answers_of (buildStr_fails fs src fun _ => trivial)

/-- the same for a build from a file: whatever the file system holds (missing files, include
    cycles, directories in place of files), `buildFile` returns a result or an error -/
theorem build_file_always_answers (fs : Fs) (src path : Str) (incs : List Str) :
    (∃ b, buildFile fs path incs = .ok b) ∨ (∃ e, buildFile fs path incs = .error e) :=
  answers_of (buildFile_fails fs path incs fun _ => trivial)

/-- expression evaluation is total and never panics: its result type has no such outcome, and
    the arithmetic the Rust code checks (`checked_*`, shift counts, division by zero) yields
    `.err` in the model — see C05.evalWith_total for the totality statement -/
theorem eval_outcomes (c : Ctx) (e : Expr) : (∃ v, eval c e = .ok v) ∨ (∃ k, eval c e = .err k) ∨ eval c e = .oof := by
  cases h : eval c e with
  | ok v => exact Or.inl ⟨v, rfl⟩
  | err k => exact Or.inr (Or.inl ⟨k, rfl⟩)
  | oof => exact Or.inr (Or.inr rfl)

end Avra.Props.C16
