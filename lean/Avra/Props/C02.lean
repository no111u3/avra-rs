/-
  C02 — label values and .org positions equal where the bytes really land.

  Model: pass 1 (`pass1Items`: sizes, labels) and pass 2 (`pass2Items`: emission) are separate
  code in /repo; the theorems state that they stay in lockstep: the address pass 1 books for every
  item is the position at which pass 2 emits its bytes.

  Pass 1 books an instruction by `info`, pass 2 emits it by `process`: that these agree is the
  second word of the encoder arms against the length column of the opcode table (`process_len`).
  On it rests the lockstep of the two passes over one item and over a list (`lockstep`, with
  `code_lockstep`, `eeprom_lockstep` its corollaries); then labels, `.org` and segments.
-/
import Avra.Props.C06
import Avra.Lemmas.Info
namespace Avra.Props.C02
open Avra.Model Avra.Isa Avra.Spec Avra.Props.C06 Avra.Props.C03b

/-- which instructions take two words: jmp, call, and lds/sts on cores with the 32-bit form -/
def twoWord (avr8l : Bool) (op : Op) : Bool :=
  op = .jmp || op = .call || (!avr8l && (op = .lds || op = .sts))

def Snd (p : Bool) (r : W) : Prop := ∀ w o, r = some (w, o) → o.isSome = p

section
variable {p : Bool} {w : Nat} {o : Option Nat}

@[simp] theorem Snd.none : Snd p none := fun _ _ h => nomatch h

@[simp] theorem Snd.some : Snd p (some (w, o)) ↔ o.isSome = p :=
  ⟨fun h => h _ _ rfl, fun h _ _ e => by cases e; exact h⟩

@[simp] theorem Snd.map {α : Type} (x : Option α) (f : α → Nat × Option Nat) (h : ∀ a, (f a).2.isSome = p) :
    Snd p (x.map f) := by
  cases x with
  | none => exact Snd.none
  | some a => exact Snd.some.2 (h a)

@[simp] theorem Snd.ite {c : Prop} [Decidable c] {a b : W} (ha : Snd p a) (hb : Snd p b) :
    Snd p (if c then a else b) := by
  split <;> assumption

end

/-! every arm is a match on the operand shapes whose right sides are built from `none`,
    `some (_, none)`, `Option.map` and `if`; only `eAbs` and the 32-bit `eDirect` give a second word -/
@[simp] theorem eRR_snd {base args} : Snd false (eRR base args) := by unfold eRR; split <;> simp
@[simp] theorem eAdiw_snd {base args} : Snd false (eAdiw base args) := by unfold eAdiw; split <;> simp
@[simp] theorem eImm_snd {base c args} : Snd false (eImm base c args) := by unfold eImm; split <;> simp
@[simp] theorem eOne_snd {base args} : Snd false (eOne base args) := by unfold eOne; split <;> simp
@[simp] theorem eSame_snd {base args} : Snd false (eSame base args) := by unfold eSame; split <;> simp
@[simp] theorem eSer_snd {base args} : Snd false (eSer base args) := by unfold eSer; split <;> simp
@[simp] theorem eMuls_snd {base args} : Snd false (eMuls base args) := by unfold eMuls; split <;> simp
@[simp] theorem eMulf_snd {base args} : Snd false (eMulf base args) := by unfold eMulf; split <;> simp
@[simp] theorem eRel_snd {base addr args} : Snd false (eRel base addr args) := by unfold eRel; split <;> simp
@[simp] theorem eAbs_snd {base args} : Snd true (eAbs base args) := by unfold eAbs; split <;> simp
@[simp] theorem eBrb_snd {base addr n args} : Snd false (eBrb base addr n args) := by
  unfold eBrb; split <;> (try split) <;> simp
@[simp] theorem eBr_snd {base addr n args} : Snd false (eBr base addr n args) := by
  unfold eBr; split <;> (try split) <;> simp
@[simp] theorem eMovw_snd {base args} : Snd false (eMovw base args) := by unfold eMovw; split <;> simp
theorem eDirect_snd {b base r k} : Snd (!b) (eDirect b base r k) := by unfold eDirect; cases b <;> simp
@[simp] theorem eLds_snd {b base args} : Snd (!b) (eLds b base args) := by unfold eLds; split <;> simp [eDirect_snd]
@[simp] theorem eSts_snd {b base args} : Snd (!b) (eSts b base args) := by unfold eSts; split <;> simp [eDirect_snd]
@[simp] theorem eLd_snd {base args} : Snd false (eLd base args) := by unfold eLd; split <;> simp
@[simp] theorem eSt_snd {base args} : Snd false (eSt base args) := by unfold eSt; split <;> simp
@[simp] theorem eLpm_snd {base e args} : Snd false (eLpm base e args) := by unfold eLpm; split <;> simp
@[simp] theorem eIn_snd {base args} : Snd false (eIn base args) := by unfold eIn; split <;> simp
@[simp] theorem eOut_snd {base args} : Snd false (eOut base args) := by unfold eOut; split <;> simp
@[simp] theorem eRegBit_snd {base args} : Snd false (eRegBit base args) := by unfold eRegBit; split <;> simp
@[simp] theorem eIoBit_snd {base args} : Snd false (eIoBit base args) := by
  unfold eIoBit; split <;> (try split) <;> simp
@[simp] theorem eFlagV_snd {base args} : Snd false (eFlagV base args) := by unfold eFlagV; split <;> simp
@[simp] theorem eFlag_snd {base n args} : Snd false (eFlag base n args) := by unfold eFlag; split <;> simp
@[simp] theorem eNone_snd {base args} : Snd false (eNone base args) := by unfold eNone; split <;> simp

/-- each mnemonic goes to its arm (`unfold encodeR`), `twoWord` evaluates on the mnemonic, and the
    arm's lemma above closes the goal -/
theorem encodeR_second (b : Bool) (op : Op) (args : List AArg) (addr base w : Nat) (o : Option Nat)
    (h : encodeR b op args addr base = some (w, o)) : o.isSome = twoWord b op := by
  refine (?_ : Snd (twoWord b op) (encodeR b op args addr base)) w o h
  cases op with
  | br t => cases t <;> unfold encodeR <;> simp [twoWord]
  | _ => unfold encodeR; simp [twoWord]

/-- Gen obligation: the length column of the opcode table extracted from the code
    (`Operation::info().len`, the size pass 1 books) is 2 exactly for the two-word instructions -/
def infoLenOk : Bool :=
  Gen.infoTable.all fun (op, b, len, _) => len == (if twoWord b op then 2 else 1)

theorem info_len_table : infoLenOk = true := by decide +kernel

/-- the bytes `process` emits for an instruction are as many words as pass 1 booked for it -/
theorem process_len (c : Ctx) (op : Op) (args : List IOp) (addr : Nat) (bs : List Nat) (len base : Nat)
    (hstd : ∀ n, op ≠ .custom n)
    (hi : info c.device.isAvr8l op = some (len, base)) (hp : process c op args addr = .ok bs) :
    bs.length = 2 * len := by
  have hlen : len = if twoWord c.device.isAvr8l op then 2 else 1 := by
    rw [Lemmas.info_std _ _ hstd] at hi
    simpa using List.all_eq_true.1 info_len_table _ (Lemmas.infoGo_mem hi)
  unfold process at hp
  split at hp
  · cases hp
  · rw [hi] at hp
    simp only at hp
    split at hp
    · cases hp
    · rename_i rargs _
      split at hp
      · rename_i ws hws
        injection hp with hp; subst hp
        obtain ⟨w, o⟩ := ws
        have hs := encodeR_second _ _ _ _ _ _ _ hws
        cases o <;> simp [wordsBytes, leBytes, hlen, ← hs]
      · cases hp

/-! ### pass 1 and pass 2 in lockstep over one segment -/

/-- all operations of a pass-1 item list are standard mnemonics (pass 0 expanded every macro
    call or failed) -/
def noCustom : List (Nat × Item) → Prop
  | [] => True
  | (_, .instruction (.custom _) _) :: _ => False
  | _ :: rest => noCustom rest

theorem actualLen_append (ops : List Operand) (o : Operand) : actualLen (ops ++ [o]) = actualLen ops + operandLen o := by
  unfold actualLen
  rw [List.foldl_append]; rfl

/-- bytes per address unit: flash is addressed in words -/
def unitOf : SegT → Nat
  | .code => 2
  | _ => 1

theorem lockstep_step (t : SegT) (ht : t ≠ .data) (ctx1 c2 : Ctx) (cur ln : Nat) (it : Item) (sz : Nat)
    (out : List (Nat × Item)) (ctx1' : Ctx) (hstd : t = .code → ∀ n a, it ≠ .instruction (.custom n) a)
    (hdev : t = .code → c2.device = ctx1.device) (h1 : pass1Step t ctx1 cur ln it = .ok (sz, out, ctx1')) :
    (out = [] → sz = 0) ∧ ∀ it' r, out = [(ln, it')] → pass2Step t c2 cur ln it' = .ok r →
      r.1 = sz ∧ r.2.1.length = unitOf t * sz := by
  cases it with
  | label name =>
    simp only [pass1Step] at h1
    split at h1 <;> cases h1
    exact ⟨fun _ => rfl, fun _ _ ho => nomatch ho⟩
  | pragma ops => cases h1; exact ⟨fun _ => rfl, fun _ _ ho => nomatch ho⟩
  | set _ _ | undef _ | «def» _ _ =>
    cases h1
    refine ⟨nofun, fun it' r ho hr => ?_⟩
    cases ho
    obtain ⟨h0, he⟩ := (pass2Step_ok hr).2
    exact ⟨h0, by rw [he]; rfl⟩
  | instruction op args =>
    cases t with
    | code =>
      simp only [pass1Step] at h1
      split at h1 <;> cases h1
      rename_i len base hi
      refine ⟨nofun, fun it' r ho hr => ?_⟩
      cases ho
      obtain ⟨hp, ha⟩ := (pass2Step_ok hr).2
      have hl := process_len c2 op args cur _ _ base (fun n hn => hstd rfl n args (hn ▸ rfl)) (hdev rfl ▸ hi) hp
      exact ⟨by rw [ha, hl]; omega, hl⟩
    | data => exact absurd rfl ht
    | eeprom => cases h1
  | reserveData n =>
    cases t with
    | code => cases h1
    | data => exact absurd rfl ht
    | eeprom =>
      simp only [pass1Step] at h1
      split at h1 <;> cases h1
      refine ⟨nofun, fun it' r ho hr => ?_⟩
      cases ho
      obtain ⟨ha, he⟩ := (pass2Step_ok hr).2
      exact ⟨ha, by simp [he, unitOf]⟩
  | data dt ops =>
    -- pass 1 hands the line on with operands `ops'` (a flash `.db` line of odd length: padded)
    -- and books their bytes
    obtain ⟨ops', rfl, hsz⟩ : ∃ ops', out = [(ln, .data dt ops')] ∧
        unitOf t * sz = if dt = .db then actualLen ops' else ops'.length * widthOf dt := by
      cases t
      · cases dt <;> cases h1
        · refine ⟨_, rfl, ?_⟩
          have : actualLen (if actualLen ops % 2 = 1 then ops ++ [Operand.e (Expr.const 0)] else ops) % 2 = 0 := by
            split
            · rw [actualLen_append]; simp [operandLen]; omega
            · omega
          simp only [unitOf, if_true]; omega
        all_goals exact ⟨ops, rfl, by simp [unitOf, widthOf]; omega⟩
      · exact absurd rfl ht
      · cases dt <;> cases h1 <;> exact ⟨ops, rfl, by simp [unitOf, widthOf]⟩
    refine ⟨nofun, fun it' r ho hr => ?_⟩
    cases ho
    obtain ⟨hd, ha⟩ := (pass2Step_ok hr).2
    have hl : r.2.1.length = unitOf t * sz := by
      rw [hsz]
      cases dt
      · exact db_length _ _ _ hd
      all_goals exact word_length _ _ (by decide) _ _ hd
    cases t <;> simp [unitOf] at hl ha ⊢ <;> omega

theorem noCustom_cons (ln : Nat) (it : Item) (rest : List (Nat × Item)) :
    noCustom ((ln, it) :: rest) ↔ (∀ n a, it ≠ .instruction (.custom n) a) ∧ noCustom rest := by
  by_cases h : ∃ n a, it = .instruction (.custom n) a
  · obtain ⟨n, a, rfl⟩ := h
    exact ⟨fun hf => (show False from hf).elim, fun hr => hr.1 n a rfl⟩
  · have h' : ∀ n a, it ≠ .instruction (.custom n) a := fun n a e => h ⟨n, a, e⟩
    rw [noCustom.eq_3 _ _ (fun _ n a e => h' n a (Prod.mk.inj e).2)]
    exact ⟨fun hr => ⟨h', hr⟩, fun hr => hr.2⟩

/-- C02, one segment of flash or EEPROM: the end offset pass 1 books is where pass 2 arrives -/
theorem lockstep (t : SegT) (ht : t ≠ .data) (limit : Nat) : ∀ (items : List (Nat × Item)) (cur : Nat) (ctx1 : Ctx) (e : Nat)
    (its : List (Nat × Item)) (ctx1' : Ctx), pass1Items t limit items cur ctx1 = .ok (e, its, ctx1') →
    (t = .code → noCustom items) → ∀ (acc : List Nat) (ctx2 : Ctx) (res : List Nat × Ctx),
    (t = .code → ctx2.device = ctx1.device) → pass2Items t its cur acc ctx2 = .ok res →
    ∃ emitted, res.1 = acc ++ emitted ∧ cur ≤ e ∧ emitted.length = unitOf t * (e - cur) := by
  refine pass1Items_induction ?_ ?_
  · intro cur ctx1 _ _ acc ctx2 res _ h2
    cases h2; exact ⟨[], by simp, Nat.le_refl _, by simp⟩
  · intro ln it rest cur ctx1 ⟨sz, out, cm⟩ e its ctx1' hs ih hnc acc ctx2 res hdev h2
    have hd1 : cm.device = ctx1.device := by
      rcases (pass1Step_ok hs).2 with h | ⟨_, _, h⟩ <;> exact (congrArg Ctx.device h :)
    obtain ⟨h0, hstep⟩ := lockstep_step t ht ctx1 (atPc ctx2 cur) cur ln it sz out cm
      (fun h => ((noCustom_cons _ _ _).1 (hnc h)).1) hdev hs
    -- of what is handed on pass 2 makes `em`
    obtain ⟨em, c2, hl, hd2, h2'⟩ : ∃ em c2, em.length = unitOf t * sz ∧ (t = .code → c2.device = ctx1.device) ∧
        pass2Items t its (cur + sz) (acc ++ em) c2 = .ok res := by
      rcases (pass1Step_ok hs).1 with ho | ⟨it', ho⟩ <;> rw [show out = _ from ho] at h2
      · exact ⟨[], ctx2, by rw [h0 ho]; rfl, hdev, by simpa [h0 ho] using h2⟩
      · rw [List.singleton_append, pass2Items_cons] at h2
        obtain ⟨r, hs2, h2⟩ := Out.bind_eq_ok h2
        obtain ⟨ha, hl⟩ := hstep it' r ho hs2
        exact ⟨r.2.1, r.2.2, hl, fun h => (pass2Step_ok hs2).1.trans (hdev h), ha ▸ h2⟩
    obtain ⟨em', hres, hle, hl'⟩ := ih (fun h => ((noCustom_cons _ _ _).1 (hnc h)).2) _ _ _
      (fun h => (hd2 h).trans hd1.symm) h2'
    refine ⟨em ++ em', by rw [hres, List.append_assoc], by omega, ?_⟩
    rw [List.length_append, hl, hl', ← Nat.mul_add]
    congr 1; omega

/-- C02, one code segment: whatever pass 1 booked (end offset `e` for the items from word address
    `cur`) is what pass 2 emits — the byte count is even and `e = cur + emitted/2`.  By induction
    over the item list: every instruction (1 or 2 words; 1-word lds/sts on reduced cores), every
    `.db` line (odd ones padded by pass 1), `.dw/.dd/.dq`, `.set/.def/.undef`, labels and pragmas. -/
theorem code_lockstep (limit : Nat) : ∀ (items : List (Nat × Item)) (cur : Nat) (ctx1 : Ctx) (e : Nat)
    (its : List (Nat × Item)) (ctx1' : Ctx) (acc : List Nat) (ctx2 : Ctx) (bytes : List Nat) (ctx2' : Ctx),
    noCustom items → ctx2.device = ctx1.device →
    pass1Items .code limit items cur ctx1 = .ok (e, its, ctx1') →
    pass2Items .code its cur acc ctx2 = .ok (bytes, ctx2') →
    ∃ emitted, bytes = acc ++ emitted ∧ emitted.length % 2 = 0 ∧ e = cur + emitted.length / 2 := by
  intro items cur ctx1 e its ctx1' acc ctx2 bytes ctx2' hnc hdev h1 h2
  obtain ⟨em, hb, hle, hl⟩ := lockstep .code (by decide) limit items cur ctx1 e its ctx1' h1 (fun _ => hnc) acc ctx2 _ (fun _ => hdev) h2
  simp only [unitOf] at hl
  exact ⟨em, hb, by omega, by omega⟩

/-- C02, one EEPROM segment: whatever pass 1 booked (end offset `e` for the items from byte address
    `cur`) is what pass 2 emits — `e = cur + emitted` in BYTES: `.db` lines are not padded here,
    `.dw/.dd/.dq` take their width, `.byte n` reserves n zero bytes; instructions are refused. -/
theorem eeprom_lockstep (limit : Nat) : ∀ (items : List (Nat × Item)) (cur : Nat) (ctx1 : Ctx) (e : Nat)
    (its : List (Nat × Item)) (ctx1' : Ctx) (acc : List Nat) (ctx2 : Ctx) (bytes : List Nat) (ctx2' : Ctx),
    pass1Items .eeprom limit items cur ctx1 = .ok (e, its, ctx1') →
    pass2Items .eeprom its cur acc ctx2 = .ok (bytes, ctx2') →
    ∃ emitted, bytes = acc ++ emitted ∧ e = cur + emitted.length := by
  intro items cur ctx1 e its ctx1' acc ctx2 bytes ctx2' h1 h2
  obtain ⟨em, hb, hle, hl⟩ := lockstep .eeprom (by decide) limit items cur ctx1 e its ctx1' h1
    (fun h => by cases h) acc ctx2 _ (fun h => by cases h) h2
  simp only [unitOf] at hl
  exact ⟨em, hb, by omega⟩

/-- a data segment reserves and emits nothing: its end offset is its start plus the sizes of its
    `.byte` directives, and each label gets the offset reached before it (`label_is_next_position`) -/
theorem dseg_reserve (limit : Nat) (ln : Nat) (n : Int) (rest : List (Nat × Item)) (cur : Nat) (ctx : Ctx)
    (hlim : ¬ cur > limit) (hn : ¬ (n < 0 ∨ n > 4294967295)) :
    pass1Items .data limit ((ln, .reserveData n) :: rest) cur ctx = pass1Items .data limit rest (cur + n.toNat) ctx := by
  simp [pass1Items_cons, pass1Step, hlim, hn, prependItems_nil]

/-- a label is given the address at which the next item of its segment is emitted (pass 1 step) -/
theorem label_is_next_position (t : SegT) (limit : Nat) (ln : Nat) (name : Str) (rest : List (Nat × Item))
    (cur : Nat) (ctx : Ctx) (hlim : ¬ cur > limit) (hnew : ctx.exist name = false) :
    pass1Items t limit ((ln, .label name) :: rest) cur ctx =
      pass1Items t limit rest cur { ctx with labels := ainsert name (t, cur % 4294967296) ctx.labels } := by
  simp [pass1Items_cons, pass1Step, hlim, hnew, prependItems_nil]

/-- a label whose name is already taken (by a label, .equ, .set, .define or .def) fails the
    build, naming the line -/
theorem duplicate_label_error (t : SegT) (limit : Nat) (ln : Nat) (name : Str) (rest : List (Nat × Item))
    (cur : Nat) (ctx : Ctx) (hlim : ¬ cur > limit) (hdup : ctx.exist name = true) :
    pass1Items t limit ((ln, .label name) :: rest) cur ctx = .error ⟨some ln, "label-twice"⟩ := by
  simp [pass1Items_cons, pass1Step, hlim, hdup, lineErr]

/-- `.org N` (N at or beyond the running offset): pass 2 pads the image with zero bytes so that
    the segment's first byte lands at byte offset 2·N exactly -/
theorem org_lands (code : List Nat) (addr : Nat) (heven : code.length % 2 = 0) (hge : code.length / 2 ≤ addr) :
    (code ++ List.replicate (2 * (addr - code.length / 2)) 0).length = 2 * addr := by
  simp; omega

/-- the padding is zero bytes only, and what was emitted before is not touched -/
theorem org_gap_zero (code : List Nat) (addr : Nat) (i : Nat) (hi : code.length ≤ i)
    (hlt : i < (code ++ List.replicate (2 * (addr - code.length / 2)) 0).length) :
    (code ++ List.replicate (2 * (addr - code.length / 2)) 0)[i]? = some 0 := by
  rw [List.getElem?_append_right hi, List.getElem?_replicate]
  simp only [List.length_append, List.length_replicate] at hlt
  have : i - code.length < 2 * (addr - code.length / 2) := by omega
  simp [this]

/-! ### segments: where pass 1 places them and where pass 2 puts their bytes -/

/-- **A code segment lands at its address.**  Pass 2 pads the flash image with zero bytes up to
    byte offset 2·address (when the image is shorter), appends the segment's bytes there and goes
    on: nothing emitted before is touched, shifted or dropped. -/
theorem code_segment_lands (p1 : Pass1Result) (s : Segment) (more : List Segment) (code ee : List Nat) (ctx ctx' : Ctx)
    (frag : List Nat) (ht : s.t = .code) (heven : code.length % 2 = 0) (hge : code.length / 2 ≤ s.address)
    (hp : pass2Items .code s.items s.address [] ctx = .ok (frag, ctx')) :
    pass2.go p1 (s :: more) code ee ctx =
      pass2.go p1 more (code ++ List.replicate (2 * (s.address - code.length / 2)) 0 ++ frag) ee ctx' ∧
    (code ++ List.replicate (2 * (s.address - code.length / 2)) 0).length = 2 * s.address := by
  constructor
  · conv => lhs; unfold pass2.go
    simp only [ht, hp]
  · exact org_lands code s.address heven hge

/-- the same for an EEPROM segment, in bytes -/
theorem eeprom_segment_lands (p1 : Pass1Result) (s : Segment) (more : List Segment) (code ee : List Nat) (ctx ctx' : Ctx)
    (frag : List Nat) (ht : s.t = .eeprom) (hge : ee.length ≤ s.address)
    (hp : pass2Items .eeprom s.items s.address [] ctx = .ok (frag, ctx')) :
    pass2.go p1 (s :: more) code ee ctx =
      pass2.go p1 more code (ee ++ List.replicate (s.address - ee.length) 0 ++ frag) ctx' ∧
    (ee ++ List.replicate (s.address - ee.length) 0).length = s.address := by
  constructor
  · conv => lhs; unfold pass2.go
    simp only [ht, hp]
  · simp; omega

/-- a data segment emits nothing -/
theorem data_segment_emits_nothing (p1 : Pass1Result) (s : Segment) (more : List Segment) (code ee : List Nat) (ctx ctx' : Ctx)
    (frag : List Nat) (ht : s.t = .data) (hp : pass2Items .data s.items s.address [] ctx = .ok (frag, ctx')) :
    pass2.go p1 (s :: more) code ee ctx = pass2.go p1 more code ee ctx' := by
  conv => lhs; unfold pass2.go
  simp only [ht, hp]

/-- **Pass 1 places a code segment** at its `.org` address, or — without `.org` (address 0) — at
    the running code offset; an `.org` below the running offset is an overlap error; the running
    offset then becomes the end pass 1 booked (`code_lockstep`: exactly what pass 2 emits).
    (The EEPROM and data memories: the same with their own offsets, `pass1_places_eeprom_segment`.) -/
theorem pass1_places_code_segment (msgs : List Str) (dev : Device) (s : Segment) (more out : List Segment)
    (cO dO eO : Nat) (ctx : Ctx) (ht : s.t = .code) :
    pass1.go msgs dev (s :: more) cO dO eO out ctx =
      if s.address ≠ 0 ∧ s.address < cO then noLineErr "overlap" else
      match pass1Items .code dev.flash s.items (if s.address = 0 then cO else s.address) ctx with
      | .ok (endOff, items, ctx') =>
        pass1.go msgs dev more endOff dO eO ({ items := items, t := .code, address := if s.address = 0 then cO else s.address } :: out) ctx'
      | .error e => .error e
      | .panic p => .panic p
      | .oof => .oof := by
  conv => lhs; unfold pass1.go
  simp only [ht]
  rfl

theorem pass1_places_eeprom_segment (msgs : List Str) (dev : Device) (s : Segment) (more out : List Segment)
    (cO dO eO : Nat) (ctx : Ctx) (ht : s.t = .eeprom) :
    pass1.go msgs dev (s :: more) cO dO eO out ctx =
      if s.address ≠ 0 ∧ s.address < eO then noLineErr "overlap" else
      match pass1Items .eeprom dev.eeprom s.items (if s.address = 0 then eO else s.address) ctx with
      | .ok (endOff, items, ctx') =>
        pass1.go msgs dev more cO dO endOff ({ items := items, t := .eeprom, address := if s.address = 0 then eO else s.address } :: out) ctx'
      | .error e => .error e
      | .panic p => .panic p
      | .oof => .oof := by
  conv => lhs; unfold pass1.go
  simp only [ht]
  rfl

end Avra.Props.C02
