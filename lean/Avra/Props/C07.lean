/-
  C07 — the Intel HEX files reproduce the images byte for byte at the right addresses.

  Model: Avra.Model.Hex (writer.rs + the record formatting of the `ihex` crate).
  Spec:  Avra.Spec.Hex  (an independent READER; it knows nothing about the writer).
-/
import Avra.Lemmas.Hex
namespace Avra.Props.C07
open Avra.Model.Hex Avra.Spec.Hex Avra.Lemmas.Hex

theorem place_eq (base a16 : Nat) : ∀ (bs : List Nat) (i : Nat), a16 + i + bs.length ≤ 65536 →
    place base a16 i bs = cellsAt (base + a16 + i) bs
  | [], _, _ => rfl
  | b :: bs, i, h => by
    simp only [List.length_cons] at h
    simp only [place, cellsAt, place_eq base a16 bs (i + 1) (by omega), Nat.mod_eq_of_lt (show a16 + i < 65536 by omega),
      Nat.add_assoc]

theorem cellsAt_take_drop (n : Nat) : ∀ (l : List Nat) (a : Nat),
    cellsAt a l = cellsAt a (l.take n) ++ cellsAt (a + n) (l.drop n) := by
  induction n with
  | zero => intro l a; rfl
  | succ n ih =>
    intro l a
    cases l with
    | nil => rfl
    | cons x xs =>
      simp only [List.take_succ_cons, List.drop_succ_cons, cellsAt, List.cons_append]
      rw [ih xs (a + 1), Nat.add_right_comm a 1 n]
      rfl

theorem dataRecords_cons (i : Nat) (c : List Nat) (cs : List (List Nat)) :
    dataRecords i (c :: cs) = dataRecords i [c] ++ dataRecords (i + 1) cs := by
  simp [dataRecords]

/-- the records of chunk `i`: whether or not it opens a new 64 KiB block (an extended linear
    address record first), the base in force for its data record is that of block `i / 4096`, and
    its bytes land from address `16 * i` on -/
theorem interpret_chunk (i base : Nat) (c : List Nat) (rest : List Rec) (cells : List (Nat × Nat))
    (hbase : i % 4096 ≠ 0 ∨ i = 0 → base = i / 4096 * 65536) (hc : c.length ≤ 16) (hi : i / 4096 < 65536)
    (hrest : interpret rest (i / 4096 * 65536) = some cells) :
    interpret ((dataRecords i [c]).map toRec ++ rest) base = some (cellsAt (16 * i) c ++ cells) := by
  have hplace := place_eq (i / 4096 * 65536) (i % 4096 * 16) c 0 (by omega)
  rw [show i / 4096 * 65536 + i % 4096 * 16 + 0 = 16 * i by omega] at hplace
  by_cases hnew : i > 0 ∧ i % 4096 = 0
  · simp only [dataRecords, if_pos hnew, List.cons_append, List.nil_append, List.map_cons, List.map_nil, toRec,
      interpret, Nat.mod_eq_of_lt hi, hrest, hplace, Option.map_some]
  · rw [hbase ((Nat.eq_zero_or_pos i).symm.imp (fun h0 h => hnew ⟨h0, h⟩) id)]
    simp only [dataRecords, if_neg hnew, List.cons_append, List.nil_append, List.map_cons, List.map_nil, toRec,
      interpret, hrest, hplace, Option.map_some]

theorem chunk_ok (i : Nat) (c : List Nat) (hc : c.length ≤ 16) (hb : bytesOk c) : ∀ r ∈ dataRecords i [c], recOk r := by
  simp only [dataRecords, List.forall_mem_append, List.forall_mem_cons]
  exact ⟨by split <;> simp [recOk, Nat.mod_lt], ⟨by omega, by omega, hb⟩, nofun⟩

theorem data_records : ∀ (f : Nat) (l : List Nat) (i base : Nat),
    l.length ≤ f → bytesOk l →
    (i % 4096 ≠ 0 ∨ i = 0 → base = i / 4096 * 65536) →
    16 * i + l.length ≤ 4294967296 →
    (∀ r ∈ dataRecords i (chunks 16 f l), recOk r) ∧
    interpret ((dataRecords i (chunks 16 f l)).map toRec ++ [Rec.eof]) base = some (cellsAt (16 * i) l) := by
  intro f
  induction f with
  | zero =>
    intro l i base hl _ _ _
    obtain rfl := List.eq_nil_of_length_eq_zero (Nat.le_zero.mp hl)
    exact ⟨nofun, rfl⟩
  | succ f ih =>
    intro l i base hl hb hbase hsz
    cases l with
    | nil => exact ⟨nofun, rfl⟩
    | cons x xs =>
      simp only [List.length_cons] at hl hsz
      obtain ⟨ok, hrest⟩ := ih ((x :: xs).drop 16) (i + 1) (i / 4096 * 65536)
        (by rw [List.length_drop, List.length_cons]; omega) (fun b h => hb b (List.mem_of_mem_drop h)) (by omega)
        (by rw [List.length_drop, List.length_cons]; omega)
      rw [show chunks 16 (f + 1) (x :: xs) = (x :: xs).take 16 :: chunks 16 f ((x :: xs).drop 16) from rfl,
        dataRecords_cons, List.map_append, List.append_assoc, cellsAt_take_drop 16 (x :: xs)]
      exact ⟨List.forall_mem_append.2 ⟨chunk_ok i _ (List.length_take_le ..) fun b h => hb b (List.mem_of_mem_take h), ok⟩,
        interpret_chunk i base _ _ _ hbase (List.length_take_le ..) (by omega) hrest⟩

/-- C07: for EVERY image (any length up to 4 GiB, any byte contents, the empty image included)
    the file written consists solely of well-formed records with valid checksums (every line
    parses under the independent reader, which verifies length field and checksum), ends in the
    one end-of-file record, and decodes to exactly byte `i` of the image at address `i` — every
    byte once, none elsewhere.  One function serves the code and the EEPROM writer. -/
theorem hex_roundtrip (img : List Nat) (hb : bytesOk img) (hlen : img.length ≤ 2 ^ 32) :
    readCells (fileText img) = some (imageCells img) := by
  cases img with
  | nil => decide +kernel
  | cons x xs =>
    obtain ⟨ok, h⟩ := data_records _ (x :: xs) 0 0 (Nat.le_refl _) hb (fun _ => rfl)
      (by rw [show (2 : Nat) ^ 32 = 4294967296 by decide] at hlen; omega)
    unfold readCells fileText
    rw [records_text]
    · simpa [generate, toRec, interpret, imageCells] using h
    · show ∀ r ∈ Record.extSeg 0 :: dataRecords 0 (chunks 16 _ (x :: xs)) ++ [.eof], recOk r
      rw [List.forall_mem_append, List.forall_mem_cons, List.forall_mem_singleton]
      exact ⟨⟨Nat.zero_lt_succ _, ok⟩, trivial⟩

/-- no address is written twice (so `read`, which rejects duplicates, accepts the file too) -/
theorem cellsAt_addrs (l : List Nat) : ∀ a, (cellsAt a l).map (·.1) = List.range' a l.length := by
  induction l with
  | nil => intro a; rfl
  | cons x l ih => simp [cellsAt, ih, List.range']

/-! non-vacuity: the theorem's hypotheses on concrete images, and the reader rejecting a
    corrupted file -/
example : readCells (fileText [1, 2, 3]) = some [(0, 1), (1, 2), (2, 3)] := by decide +kernel
example : fileText [] = ":00000001FF\r\n\r\n".toList := by decide +kernel
example : readCells ":0300000001020AFA\r\n:00000001FF\r\n".toList = none := by decide +kernel   -- bad checksum

end Avra.Props.C07
