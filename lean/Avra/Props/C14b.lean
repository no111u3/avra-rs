/-
  C14 at the level of the build: lines with the same parse are interchangeable.  The line loop is
  simulated (`ModeSim.loop`) for any relation between states `Rs` and any mode-indexed relation
  between texts `S` (the mode says whether we stand inside a macro definition, where the text is
  kept) that meet a small interface (`ModeSim`); the statement for texts kept as they are inside
  macro definitions (`SameM`, states equal) is one instance, the statement of `C14m` (`SameB`,
  states related by `StRel`) the other.
-/
import Avra.Props.C14
import Avra.Lemmas.Sim
import Avra.Lemmas.Skip
namespace Avra.Props.C14
open Avra.Model Avra.Lemmas.Skip Avra.Lemmas.Sim

def SameLine : Option (Nat × Str) → Option (Nat × Str) → Prop
  | none, none => True
  | some (n, l), some (n', l') => n = n' ∧ parseLine l = parseLine l'
  | _, _ => False

theorem lineStep_same (inc : IncludeFn) (cur : Str) (incs : List Str) (st : PState) (idx : Nat) (t t' : Str) (re : Bool)
    (h : parseLine t = parseLine t') : lineStep inc cur incs st idx t re = lineStep inc cur incs st idx t' re := by
  unfold lineStep
  rw [h]

theorem directiveParse_endMacro (inc : IncludeFn) (cur : Str) (incs : List Str) (st : PState) (d : Directive)
    (ops : DirectiveOps) (ln : Nat) (st' : PState) (incs' : List Str)
    (h : directiveParse inc cur incs st d ops ln = .ok (st', incs', .endMacro)) : d = .macro := by
  unfold directiveParse at h
  dsimp only at h
  repeat' split at h
  -- every exit but that of `.macro` is an error, out of fuel, or asks for something else
  all_goals cases h <;> rfl

def opensMacro (l : Str) : Bool :=
  match parseLine l with
  | (some (.directiveLine _ d _), _) => d = .macro
  | _ => false

def closesMacro (l : Str) : Bool :=
  match parseLine l with
  | (some (.directiveLine _ d _), _) => d = .endmacro ∨ d = .endm
  | _ => false

theorem lineStep_endMacro_opens (inc : IncludeFn) (cur : Str) (incs : List Str) (st : PState) (idx : Nat) (t : Str) (re : Bool)
    (st' : PState) (incs' : List Str) (h : lineStep inc cur incs st idx t re = .ok (st', incs', .endMacro)) :
    opensMacro t = true := by
  unfold lineStep at h
  unfold opensMacro
  split at h
  · cases h
  · simp [lineErr] at h
  · rename_i doc o _ hp
    rw [hp]
    cases doc with
    | label name => simp at h
    | codeLine lab op args => simp at h
    | emptyLine => simp at h
    | directiveLine lab d ops =>
      simp only at h ⊢
      split at h
      · simp at h
      · simp [directiveParse_endMacro _ _ _ _ _ _ _ _ _ h]

theorem opens_not_closes (l : Str) (h : opensMacro l = true) : closesMacro l = false := by
  unfold opensMacro at h
  unfold closesMacro
  split at h
  · rename_i lab d ops o heq
    simp only [decide_eq_true_eq] at h
    subst h
    decide
  · simp at h

/-- the mode behind a delivered line: inside a macro definition if that line opens one -/
def TailMode (nx : Option (Nat × Str)) (b : Bool) : Prop := ∀ x, nx = some x → opensMacro x.2 = true → b = true

theorem tailMode_none (b : Bool) : TailMode none b := by intro x hx; simp at hx

/-! ### the simulation, for any relation between texts that tracks the macro definitions -/

structure ModeRel (S : Bool → List (Nat × Str) → List (Nat × Str) → Prop) : Prop where
  nil : ∀ b, S b [] []
  docs : ∀ {b ls ls'}, S b ls ls' → SameDocs ls ls'
  tail : ∀ {b x x' ls ls'}, S b (x :: ls) (x' :: ls') → ∃ b', S b' ls ls' ∧ (opensMacro x.2 = true → b' = true)

structure ModeSim (inc inc' : IncludeFn) (cur : Str) (Rs : PState → PState → Prop)
    (S : Bool → List (Nat × Str) → List (Nat × Str) → Prop) : Prop extends ModeRel S where
  body : ∀ {st st' ls ls'}, Rs st st' → S true ls ls' → Rs (skipStep st .endMacro ls).1 (skipStep st' .endMacro ls').1
  line : ∀ {st st'} incs idx {t t'} re, Rs st st' → parseLine t = parseLine t' →
    OutRel (fun a b => Rs a.1 b.1 ∧ a.2 = b.2) (lineStep inc cur incs st idx t re) (lineStep inc' cur incs st' idx t' re)

variable {inc inc' : IncludeFn} {cur : Str} {Rs : PState → PState → Prop}
  {S : Bool → List (Nat × Str) → List (Nat × Str) → Prop}

theorem ModeRel.drop (M : ModeRel S) : ∀ (k : Nat) {b : Bool} {ls ls' : List (Nat × Str)}, S b ls ls' →
    ∃ b', S b' (ls.drop k) (ls'.drop k)
  | 0, b, _, _, h => ⟨b, h⟩
  | k + 1, b, ls, ls', h => by
    cases M.docs h with
    | nil => exact ⟨b, M.nil b⟩
    | cons n l l' r r' _ _ =>
      obtain ⟨b', h', _⟩ := M.tail h
      exact M.drop k h'

theorem ModeRel.dropped (M : ModeRel S) {b : Bool} {ls ls' : List (Nat × Str)} (h : S b ls ls')
    {A B : Option (Nat × Str) × Bool × List (Nat × Str) × Bool} (hd : Dropped [] ls ls' A B) :
    SameLine A.1 B.1 ∧ A.2.1 = B.2.1 ∧ (∃ b', S b' A.2.2.1 B.2.2.1 ∧ TailMode A.1 b') ∧ A.2.2.2 = B.2.2.2 := by
  rcases hd with ⟨rfl, rfl⟩ | ⟨k, re, _, rfl, rfl⟩ | ⟨rfl, hB⟩
  · exact ⟨trivial, rfl, ⟨true, M.nil _, tailMode_none _⟩, rfl⟩
  · rw [List.append_nil]
    obtain ⟨b1, h1⟩ := M.drop k h
    revert h1
    generalize ls.drop k = r
    generalize ls'.drop k = r'
    intro h1
    cases M.docs h1 with
    | nil => exact ⟨trivial, rfl, ⟨true, M.nil _, tailMode_none _⟩, rfl⟩
    | cons n l l' r r' hp _ =>
      obtain ⟨b', h', hm⟩ := M.tail h1
      exact ⟨⟨rfl, hp⟩, rfl, ⟨b', h', fun x hx ho => by cases hx; exact hm ho⟩, rfl⟩
  · rw [hB rfl]
    exact ⟨trivial, rfl, ⟨true, M.nil _, tailMode_none _⟩, rfl⟩

/-- the loop simulation, by induction on the iteration bound: the skippers drop the same number of
    lines on both sides (`dropped`), the delivered lines parse alike, and the mode behind a line
    that asks for `.endMacro` is `true` because that line opens a macro definition -/
theorem ModeSim.loop (M : ModeSim inc inc' cur Rs S) : ∀ (f : Nat) (incs : List Str) (st st' : PState) (ni : NextItem)
    (ls ls' : List (Nat × Str)) (b : Bool), Rs st st' → S b ls ls' → (ni = .endMacro → b = true) →
    OutRel (fun a b => Rs a.1 b.1 ∧ a.2 = b.2) (parseIterWith inc cur f incs st ni ls) (parseIterWith inc' cur f incs st' ni ls')
  | 0, _, _, _, _, _, _, _, _, _, _ => trivial
  | f + 1, incs, st, st', ni, ls, ls', b, hst, hs, hni => by
    have hfst : Rs (skipStep st ni ls).1 (skipStep st' ni ls').1 := by
      by_cases he : ni = .endMacro
      · subst he; rw [hni rfl] at hs; exact M.body hst hs
      · rw [skipStep_fst _ _ _ he, skipStep_fst _ _ _ he]; exact hst
    have hsnd := M.toModeRel.dropped hs (skipStep_drop₀ ni (M.docs hs) st st')
    unfold parseIterWith
    revert hfst hsnd
    generalize skipStep st ni ls = A
    generalize skipStep st' ni ls' = A'
    obtain ⟨s1, nx, re, rest, o⟩ := A
    obtain ⟨s1', nx', re', rest', o'⟩ := A'
    rintro hfst ⟨hnx, rfl, ⟨br, hrest, hmode⟩, rfl⟩
    cases o with
    | true => trivial
    | false =>
      cases nx with
      | none =>
        cases nx' with
        | none => exact ⟨hfst, rfl⟩
        | some x' => exact hnx.elim
      | some x =>
        cases nx' with
        | none => exact hnx.elim
        | some x' =>
          obtain ⟨n, l⟩ := x
          obtain ⟨n', l'⟩ := x'
          obtain ⟨rfl, hp⟩ := hnx
          simp only
          refine outRel_elim (M.line incs n re hfst hp) (fun a a' hA _ h2 => ?_) (fun _ => rfl) (fun _ => rfl) trivial
          obtain ⟨s2, i2, n2⟩ := a
          obtain ⟨s2', _, _⟩ := a'
          obtain ⟨h2, hi⟩ := h2
          cases hi
          refine M.loop f i2 s2 s2' n2 rest rest' br h2 hrest ?_
          rintro rfl
          exact hmode (n, l) rfl (lineStep_endMacro_opens _ _ _ _ _ _ _ _ _ hA)

/-! ### first instance: macro bodies kept verbatim, the states equal

Over two texts that agree verbatim inside macro definitions the loop and its skippers do the same
for ANY include handler (`parseIterWith_sameM`, `skipCond_sameM`, `skipMacro_same`).  The
`build_same*` theorems of `C14m` do not rest on these: they are cases of the second instance,
whose handlers must respect the relation between the states. -/

/-- `SameM b ls ls'`: line for line the same parse; and from a line that opens a macro definition to
    the next line that closes one (`b` = we are in between) the same TEXT -/
inductive SameM : Bool → List (Nat × Str) → List (Nat × Str) → Prop
  | nil (b : Bool) : SameM b [] []
  | out (n : Nat) (l l' : Str) (ls ls' : List (Nat × Str)) :
      parseLine l = parseLine l' → SameM (opensMacro l) ls ls' → SameM false ((n, l) :: ls) ((n, l') :: ls')
  | within (n : Nat) (l : Str) (ls ls' : List (Nat × Str)) :
      SameM (!closesMacro l) ls ls' → SameM true ((n, l) :: ls) ((n, l) :: ls')

theorem sameM_parse : ∀ (b : Bool) (ls ls' : List (Nat × Str)), SameM b ls ls' → SameDocs ls ls' := by
  intro b ls ls' h
  induction h with
  | nil b => exact .nil
  | out n l l' ls ls' hp _ ih => exact .cons n l l' ls ls' hp ih
  | within n l ls ls' _ ih => exact .cons n l l ls ls' rfl ih

theorem sameM_tail_mode (b : Bool) (x x' : Nat × Str) (ls ls' : List (Nat × Str))
    (h : SameM b (x :: ls) (x' :: ls')) : ∃ b', SameM b' ls ls' ∧ (opensMacro x.2 = true → b' = true) := by
  cases h with
  | out _ _ _ _ _ _ hs => exact ⟨_, hs, fun h => h⟩
  | within _ l _ _ hs => exact ⟨_, hs, fun h => by rw [opens_not_closes l h]; rfl⟩

theorem sameM_tail (b : Bool) (x x' : Nat × Str) (ls ls' : List (Nat × Str)) (h : SameM b (x :: ls) (x' :: ls')) :
    ∃ b', SameM b' ls ls' :=
  let ⟨b', h', _⟩ := sameM_tail_mode b x x' ls ls' h; ⟨b', h'⟩

theorem closesMacro_dir {l : Str} {lab : Option Str} {d : Directive} {ops : DirectiveOps} {o : Bool}
    (h : parseLine l = (some (.directiveLine lab d ops), o)) : closesMacro l = decide (d = .endmacro ∨ d = .endm) := by
  unfold closesMacro; rw [h]

theorem closesMacro_other {l : Str} (h : ∀ lab d ops o, parseLine l ≠ (some (.directiveLine lab d ops), o)) :
    closesMacro l = false := by
  unfold closesMacro
  split
  · rename_i heq; exact absurd heq (h _ _ _ _)
  · rfl

/-- the body `skipMacro` collects, over two related texts: `A` relates what has been collected so
    far; every pair of lines inside a definition extends it, and reversal keeps it -/
theorem ModeRel.body (M : ModeRel S) {A : List (Nat × Str) → List (Nat × Str) → Prop}
    (step : ∀ {x x' ls ls' acc acc'}, S true (x :: ls) (x' :: ls') → A acc acc' →
      S (!closesMacro x.2) ls ls' ∧ A (x :: acc) (x' :: acc'))
    (rev : ∀ {acc acc'}, A acc acc' → A acc.reverse acc'.reverse) :
    ∀ (ls ls' : List (Nat × Str)), S true ls ls' → ∀ acc acc' : List (Nat × Str), A acc acc' →
      A (skipMacro acc ls).1 (skipMacro acc' ls').1 := by
  intro ls
  induction ls with
  | nil => intro ls' h acc acc' hacc; cases M.docs h; exact rev hacc
  | cons x xs ih =>
    intro ls' h acc acc' hacc
    cases M.docs h with
    | cons n l l' _ xs' hp _ =>
      obtain ⟨hrest, hacc'⟩ := step h hacc
      unfold skipMacro
      rw [← hp]
      split
      · rename_i heq
        rw [closesMacro_dir heq] at hrest
        split
        · cases xs <;> cases xs' <;> exact rev hacc
        · rename_i hd
          rw [decide_eq_false hd] at hrest
          exact ih xs' hrest _ _ hacc'
      · exact rev hacc
      · rename_i h1 _
        rw [closesMacro_other h1] at hrest
        exact ih xs' hrest _ _ hacc'

theorem modeRel_sameM : ModeRel SameM where
  nil := .nil
  docs := sameM_parse _ _ _
  tail := sameM_tail_mode _ _ _ _ _

theorem skipMacro_same : ∀ (ls ls' : List (Nat × Str)), SameM true ls ls' → ∀ (acc : List (Nat × Str)),
    (skipMacro acc ls).1 = (skipMacro acc ls').1 ∧
    SameLine (skipMacro acc ls).2.1 (skipMacro acc ls').2.1 ∧
    (∃ b, SameM b (skipMacro acc ls).2.2.1 (skipMacro acc ls').2.2.1 ∧ TailMode (skipMacro acc ls).2.1 b) ∧
    (skipMacro acc ls).2.2.2 = (skipMacro acc ls').2.2.2 := by
  intro ls ls' h acc
  have := modeRel_sameM.dropped h (skipMacro_drop₀ (sameM_parse _ _ _ h) acc acc)
  exact ⟨modeRel_sameM.body (A := Eq) (fun h e => by cases h with | within _ _ _ _ hs => exact ⟨hs, by rw [e]⟩)
    (fun e => by rw [e]) ls ls' h acc acc rfl, this.1, this.2.2.1, this.2.2.2⟩

theorem modeSim_sameM (inc : IncludeFn) (cur : Str) : ModeSim inc inc cur Eq SameM where
  toModeRel := modeRel_sameM
  body := by
    rintro st _ ls ls' rfl h
    simp only [skipStep, (skipMacro_same ls ls' h []).1]
  line := by
    rintro st _ incs idx t t' re rfl hp
    rw [lineStep_same inc cur incs st idx t t' re hp]
    cases lineStep inc cur incs st idx t' re <;> trivial

theorem skipCond_sameM (all : Bool) : ∀ (ls ls' : List (Nat × Str)) (b : Bool), SameM b ls ls' → ∀ (d : Nat),
    ∃ b', SameM b' (skipCond all d ls).2.2.1 (skipCond all d ls').2.2.1 ∧ TailMode (skipCond all d ls).1 b' :=
  fun _ _ _ h d => (modeRel_sameM.dropped h (skipCond_drop₀ all (sameM_parse _ _ _ h) d)).2.2.1

theorem parseIterWith_sameM (inc : IncludeFn) (cur : Str) : ∀ (f : Nat) (incs : List Str) (st : PState) (ni : NextItem)
    (ls ls' : List (Nat × Str)) (b : Bool), SameM b ls ls' → (ni = .endMacro → b = true) →
      parseIterWith inc cur f incs st ni ls = parseIterWith inc cur f incs st ni ls' := by
  intro f incs st ni ls ls' b hs hni
  exact outRel_elim ((modeSim_sameM inc cur).loop f incs st st ni ls ls' b rfl hs hni)
    (fun a a' _ _ h => by rw [Prod.ext h.1 h.2]) (fun _ => rfl) (fun _ => rfl) rfl

/-! ### texts, line by line: the premises of the build theorems of `C14m` -/

def NoMacroDef (ls : List (Nat × Str)) : Prop :=
  ∀ x ∈ ls, ∀ lab ops o, parseLine x.2 ≠ (some (.directiveLine lab .macro ops), o)

inductive SameLines : List Str → List Str → Prop
  | nil : SameLines [] []
  | cons (l l' : Str) (ls ls' : List Str) : parseLine l = parseLine l' → SameLines ls ls' → SameLines (l :: ls) (l' :: ls')

theorem sameLines_length : ∀ (L L' : List Str), SameLines L L' → L.length = L'.length := by
  intro L L' h
  induction h with
  | nil => rfl
  | cons l l' ls ls' _ _ ih => simp [ih]

/-! non-vacuity: `  NOP \t; done` and `nop` parse alike (by the whole-line theorem), so a program may
    have the one where it has the other -/
example : parseLine ([' ', ' '] ++ (['N', 'O', 'P'] ++ ([' ', '\t'] ++ [';', ' ', 'x']))) =
    parseLine ([] ++ (['n', 'o', 'p'] ++ ([] ++ []))) := by
  have h1 := bare_instruction_line [' ', ' '] ['N', 'O', 'P'] [' ', '\t'] [';', ' ', 'x'] (by unfold blanks; decide)
    (isName_cons (by decide)) (by unfold blanks; decide) (Or.inr ⟨Or.inl rfl, rfl⟩)
  have h2 := bare_instruction_line [] ['n', 'o', 'p'] [] [] blanks_nil (isName_cons (by decide)) blanks_nil (Or.inl rfl)
  unfold parseLine
  rw [h1, h2]
  rfl

/-- two texts, line by line: each line parses alike, and from a line that opens a macro definition to
    the next line that closes one the lines are the same text -/
inductive SameLinesM : Bool → List Str → List Str → Prop
  | nil (b : Bool) : SameLinesM b [] []
  | out (l l' : Str) (ls ls' : List Str) : parseLine l = parseLine l' → SameLinesM (opensMacro l) ls ls' →
      SameLinesM false (l :: ls) (l' :: ls')
  | within (l : Str) (ls ls' : List Str) : SameLinesM (!closesMacro l) ls ls' → SameLinesM true (l :: ls) (l :: ls')

end Avra.Props.C14
