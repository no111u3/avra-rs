/-
  C15 — a failed build names the offending line; messages are kept in order.

  Model: the error sites of `lineStep` / `directiveParse` (parser.rs, directive.rs), `pass1Items`
  (pass1.rs), `pass2Items` (pass2.rs), `macroExpand` (pass0.rs).  Every error value of the model
  carries the line the Rust message names (`line: N`), or none.
-/
import Avra.Lemmas.Outcome
import Avra.Props.C02
namespace Avra.Props.C15
open Avra.Model

/-- a line that does not parse is an error naming that line (1-based) -/
theorem syntax_error_line (inc : IncludeFn) (cur : Str) (incs : List Str) (st : PState) (idx : Nat)
    (text : Str) (re : Bool) (h : parseLine text = (none, false)) :
    lineStep inc cur incs st idx text re = .error ⟨some (idx + 1), "syntax"⟩ := by
  simp [lineStep, h, lineErr]

/-- `.error "text"` fails the build wherever it is assembled, naming its line -/
theorem error_directive_fatal (inc : IncludeFn) (cur : Str) (incs : List Str) (st : PState) (msg : Str)
    (more : List Operand) (ln : Nat) :
    directiveParse inc cur incs st .error (.opList (.s msg :: more)) ln = .error ⟨some ln, "error-directive"⟩ := rfl

/-- `.message` / `.warning` append exactly one entry — kind, text, their own line — to the END of
    the message list and change nothing else of the state (segments, symbols, macros): they cannot
    change the images -/
theorem message_only_appends (inc : IncludeFn) (cur : Str) (incs : List Str) (st : PState) (msg : Str)
    (more : List Operand) (ln : Nat) :
    directiveParse inc cur incs st .message (.opList (.s msg :: more)) ln =
      .ok ({ st with messages := st.messages ++ [messageText "info".toList msg ln] }, incs, .newLine) ∧
    directiveParse inc cur incs st .warning (.opList (.s msg :: more)) ln =
      .ok ({ st with messages := st.messages ++ [messageText "warning".toList msg ln] }, incs, .newLine) :=
  ⟨rfl, rfl⟩

/-- the entry names the line: "<kind>: <text> in line: <n>" -/
theorem message_text (kind msg : Str) (ln : Nat) :
    messageText kind msg ln = kind ++ ": ".toList ++ msg ++ " in line: ".toList ++ natToDec ln := rfl

/-- EVERY error a directive can raise (wrong operands, undefined symbol in `.if`/`.org`/`.byte`,
    unknown device, second `.device`, `.equ` of a taken name, `.error`, unsupported directive …)
    names the directive's line; the one exception is `.include`, whose errors come from the file -/
theorem directive_error_line (inc : IncludeFn) (cur : Str) (incs : List Str) (st : PState) (d : Directive)
    (ops : DirectiveOps) (ln : Nat) (e : Err) (hd : d ≠ .include)
    (h : directiveParse inc cur incs st d ops ln = .error e) : e.line = some ln :=
  (directiveParse_sat (Q := Fail.errorIs (·.line = some ln)) (fun _ => True) inc cur incs st d ops ln (fun _ => rfl)
    (fun _ _ _ => trivial) fun hi => absurd hi hd).error h

/-- every directive other than `.include` keeps the messages recorded so far, in order, and at
    most appends to their END: the list is in the order the lines were assembled -/
theorem directive_messages_grow (inc : IncludeFn) (cur : Str) (incs : List Str) (st : PState) (d : Directive)
    (ops : DirectiveOps) (ln : Nat) (r : PState × List Str × NextItem) (hd : d ≠ .include)
    (h : directiveParse inc cur incs st d ops ln = .ok r) : ∃ extra, r.1.messages = st.messages ++ extra :=
  (directiveParse_sat (Q := fun _ => True) (fun st' => ∃ extra, st'.messages = st.messages ++ extra) inc cur incs st d ops
    ln (fun _ => trivial) (fun _ extra h => ⟨extra, h⟩) fun hi => absurd hi hd).ok h

/-- the same for every line of the loop: an error raised while reading line `idx` (0-based) names
    line `idx + 1`, unless the line is an `.include` (then the error is the file's) -/
theorem lineStep_error_line (inc : IncludeFn) (cur : Str) (incs : List Str) (st : PState) (idx : Nat)
    (text : Str) (re : Bool) (e : Err)
    (hinc : ∀ lab ops, parseLine text ≠ (some (.directiveLine lab .include ops), false))
    (h : lineStep inc cur incs st idx text re = .error e) : e.line = some (idx + 1) :=
  (lineStep_sat (Q := Fail.errorIs (·.line = some (idx + 1))) (fun _ => True) inc cur incs st idx text re (fun _ => rfl)
    (fun _ _ _ => trivial) fun ⟨lab, ops, hp⟩ => absurd hp (hinc lab ops)).error h

/-- "the messages recorded so far are kept, in order" -/
def Grows (a b : List Str) : Prop := ∃ extra, b = a ++ extra

theorem Grows.refl (a : List Str) : Grows a a := ⟨[], by simp⟩
theorem Grows.trans {a b c : List Str} (h1 : Grows a b) (h2 : Grows b c) : Grows a c := by
  obtain ⟨x, rfl⟩ := h1; obtain ⟨y, rfl⟩ := h2; exact ⟨x ++ y, by simp⟩

def IncGrows (inc : IncludeFn) : Prop := ∀ p i st r, inc p i st = .ok r → Grows st.messages r.1.messages

theorem lineStep_grows (inc : IncludeFn) (hinc : IncGrows inc) (cur : Str) (incs : List Str) (st : PState)
    (idx : Nat) (text : Str) (re : Bool) (r : PState × List Str × NextItem)
    (h : lineStep inc cur incs st idx text re = .ok r) : Grows st.messages r.1.messages :=
  (lineStep_sat (Q := fun _ => True) (fun st' => Grows st.messages st'.messages) inc cur incs st idx text re
    (fun _ => trivial) (fun _ extra h => ⟨extra, h⟩)
    fun _ p st' hm => Out.sat_of_ok fun r hr => hm ▸ hinc p incs st' r hr).ok h

theorem skipStep_messages (st : PState) (ni : NextItem) (ls : List (Nat × Str)) :
    (skipStep st ni ls).1.messages = st.messages := by
  unfold skipStep
  cases ni <;> simp
  · split <;> rfl

theorem loop_grows (inc : IncludeFn) (hinc : IncGrows inc) (cur : Str) :
    ∀ (f : Nat) (incs : List Str) (st : PState) (ni : NextItem) (ls : List (Nat × Str)) (r : PState × List Str),
      parseIterWith inc cur f incs st ni ls = .ok r → Grows st.messages r.1.messages :=
  fun f incs st ni ls r h =>
    (parseIterWith_sat (Q := fun _ => True) (fun s => Grows st.messages s.messages) inc cur
      (fun s ni ls hs => by rw [skipStep_messages]; exact hs)
      (fun incs s idx text re hs => Out.sat_of_ok
        fun v hv => hs.trans (lineStep_grows inc hinc cur incs s idx text re v hv))
      f incs st ni ls (fun _ => trivial) (Grows.refl _)).ok h

/-- files, to any include depth: the messages assembled before an `.include` stay in front of
    the file's own, which stay in front of everything after it -/
theorem file_grows (fs : Fs) : ∀ (d : Nat), IncGrows (parseFileAt fs d) := by
  intro d
  induction d with
  | zero => intro p i st r h; simp [parseFileAt] at h
  | succ d ih =>
    intro p i st r h
    unfold parseFileAt at h
    dsimp only at h
    split at h
    · split at h <;> cases h
    · split at h
      · rename_i hl; cases h; exact (loop_grows _ ih _ _ _ _ _ _ _ hl :)
      all_goals cases h

/-- the whole parse of a source text keeps the messages in the order their lines were assembled -/
theorem parse_messages_in_order (fs : Fs) (cur : Str) (incs : List Str) (st : PState) (ni : NextItem)
    (ls : List (Nat × Str)) (r : PState × List Str) (h : parseIter fs cur incs st ni ls = .ok r) :
    Grows st.messages r.1.messages :=
  loop_grows _ (file_grows fs includeDepth) _ _ _ _ _ _ _ h

/-- errors of pass 2 name the line of the item that failed -/
theorem pass2_error_names_item (t : SegT) : ∀ (items : List (Nat × Item)) (cur : Nat) (acc : List Nat) (ctx : Ctx)
    (e : Err), pass2Items t items cur acc ctx = .error e → ∃ p ∈ items, e.line = some p.1 :=
  fun items cur acc ctx _ h =>
    (pass2Items_fails (Q := Fail.errorIs fun e => ∃ p ∈ items, e.line = some p.1) t items cur acc ctx
      fun p hp _ => ⟨p, hp, rfl⟩).error h

/-- errors of pass 1 name the line of the item that failed (duplicate label, misplaced item),
    except the capacity overflow found at the end of a segment, which has no line -/
theorem pass1_error_names_item (t : SegT) (limit : Nat) : ∀ (items : List (Nat × Item)) (cur : Nat) (ctx : Ctx)
    (e : Err), pass1Items t limit items cur ctx = .error e →
      (∃ p ∈ items, e.line = some p.1) ∨ (e.line = none ∧ e.kind = "overdue") :=
  fun items cur ctx _ h =>
    (pass1Items_fails (Q := Fail.errorIs fun e => (∃ p ∈ items, e.line = some p.1) ∨ (e.line = none ∧ e.kind = "overdue"))
      t limit (Or.inr ⟨rfl, rfl⟩) items cur ctx fun p hp _ => Or.inl ⟨p, hp, rfl⟩).error h

/-- the duplicate label in particular: the SECOND definition is the item that fails -/
theorem duplicate_label_line (t : SegT) (limit : Nat) (ln : Nat) (name : Str) (rest : List (Nat × Item))
    (cur : Nat) (ctx : Ctx) (hc : ¬ cur > limit) (hex : ctx.exist name = true) :
    pass1Items t limit ((ln, .label name) :: rest) cur ctx = .error ⟨some ln, "label-twice"⟩ :=
  C02.duplicate_label_error t limit ln name rest cur ctx hc hex

/-- an undefined or unknown macro names the line of the call -/
theorem unknown_macro_line (fs : Fs) (macros : List (Str × List (Nat × Str))) (st : PState) (ln : Nat)
    (name : Str) (ops : List IOp) (h : alookup name macros = none) :
    macroExpand fs macros st ln name ops = .error ⟨some ln, "undefined-macro"⟩ := by
  simp [macroExpand, h, lineErr]

end Avra.Props.C15
