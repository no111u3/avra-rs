/-
  C11 — including a file is running the same line loop over its lines from the includer's state;
  files are found where documented.

  Model: `parseFileAt` (parser.rs `parse_file_internal`), the `.include` / `.includepath` / `.exit`
  arms of `directiveParse` (directive.rs), the loop `parseIterWith`; the file system is the
  parameter `Fs` (what exists, what a file contains) — OS behaviour is not modelled further.
-/
import Avra.Lemmas.Iter
import Avra.Lemmas.Paste
namespace Avra.Props.C11
open Avra.Model Avra.Lemmas.Iter Avra.Lemmas.Paste

/-! ### where a file is looked for (independent statement) -/

/-- the documented search list: the path as written, then `dir/path` for every directory of the
    include set in force, in the set's order -/
def candidates (path : Str) (incs : List Str) : List Str :=
  path :: incs.map (fun par => pathPush par path)

/-- the first candidate that exists; the path as written when none does -/
def resolve (fs : Fs) (path : Str) (incs : List Str) : Str :=
  ((candidates path incs).find? fs.exists).getD path

/-- the include set in force INSIDE a file read from `resolved`: the includer's set plus the
    file's own directory -/
def insideSet (resolved : Str) (incs : List Str) : List Str :=
  match pathParent resolved with
  | some p => pathsInsert p incs
  | none => incs

/-- the file's own directory when it had to be added -/
def ownDir (resolved : Str) (incs : List Str) : Option Str :=
  match pathParent resolved with
  | some p => if incs.any (pathEq p) then none else some p
  | none => none

theorem resolvePath_spec (fs : Fs) (path : Str) (incs : List Str) :
    resolvePath fs path incs = resolve fs path incs := by
  unfold resolvePath resolve candidates
  rw [List.find?_cons, List.find?_map, Function.comp_def]
  cases fs.exists path
  · cases incs.find? fun par => fs.exists (pathPush par path) <;> rfl
  · rfl

theorem resolve_cases (fs : Fs) (path : Str) (incs : List Str) :
    (fs.exists (resolve fs path incs) = true ∧ resolve fs path incs ∈ candidates path incs) ∨
    ((∀ c ∈ candidates path incs, fs.exists c = false) ∧ resolve fs path incs = path) := by
  unfold resolve
  cases hf : (candidates path incs).find? fs.exists with
  | none => exact .inr ⟨by simpa using hf, rfl⟩
  | some r => exact .inl ⟨List.find?_some hf, List.mem_of_find?_eq_some hf⟩

theorem absent (fs : Fs) (p : Str) (h : fs.exists p = false) : fs.read p = none ∧ fs.isDir p = false := by
  simp only [Fs.exists, Fs.isFile, Bool.or_eq_false_iff] at h
  refine ⟨?_, h.2⟩
  unfold Fs.read
  cases hq : fs.real p with
  | none => rfl
  | some q => simpa [hq] using h.1

/-- **The file step.**  Processing `path` (as written) from the includer's state `st` with the
    includer's include set: the file is read from the first documented candidate that exists; its
    lines then go through THE SAME loop (`parseIterWith`, hence the same `lineStep` /
    `directiveParse`), starting from the includer's state — symbols, `.def`s, macros, segments,
    device, messages — and the state the loop ends in is what the includer continues with, so
    everything defined inside the file is visible afterwards.  A file that cannot be read is an
    error naming the path (as resolved — as written when no candidate exists). -/
theorem file_step (fs : Fs) (d : Nat) (path : Str) (incs : List Str) (st : PState) :
    parseFileAt fs (d + 1) path incs st =
      match fs.read (resolve fs path incs) with
      | none =>
        if fs.isDir (resolve fs path incs) then .error ⟨none, "read-directory"⟩
        else .error ⟨none, "cannot-read-file:" ++ String.ofList (resolve fs path incs)⟩
      | some src =>
        match runFrom (parseFileAt fs d) (resolve fs path incs) (st, insideSet (resolve fs path incs) incs)
            .newLine (numbered (lines src)) with
        | .ok (st', incsFile) => .ok (st', writeBack (ownDir (resolve fs path incs) incs) incsFile incs)
        | .error e => .error e
        | .panic s => .panic s
        | .oof => .oof := by
  unfold parseFileAt
  dsimp only
  rw [resolvePath_spec]
  cases fs.read (resolve fs path incs) with
  | none => rfl
  | some src =>
    have hl : (numbered (lines src)).length = (lines src).length := by simp [numbered]
    simp only [runFrom, insideSet, ownDir, hl]
    rfl

/-- the `.include` line hands the whole state to the file step and continues, on the next line
    of the including file, with the state and include set that come back -/
theorem include_step (inc : IncludeFn) (cur : Str) (incs : List Str) (st : PState) (path : Str) (ln : Nat) :
    directiveParse inc cur incs st .include (.opList [.s path]) ln =
      match inc path incs st with
      | .ok (st', incs') => .ok (st', incs', .newLine)
      | .error e =>
        -- the nesting limit is an error of THIS line (MAX_INCLUDE_DEPTH, see C16)
        if e.kind = "include-depth" ∧ e.line = none then lineErr ln "include-depth" else .error e
      | .panic s => .panic s
      | .oof => .oof := by
  unfold directiveParse
  dsimp only [List.head?_cons]
  cases inc path incs st <;> rfl

/-- a file found nowhere — not at the path as written and in no directory of the include set —
    fails with an error naming the path as written -/
theorem missing_file_named (fs : Fs) (d : Nat) (path : Str) (incs : List Str) (st : PState)
    (h : ∀ c ∈ candidates path incs, fs.exists c = false) :
    parseFileAt fs (d + 1) path incs st = .error ⟨none, "cannot-read-file:" ++ String.ofList path⟩ := by
  have hr : resolve fs path incs = path :=
    (resolve_cases fs path incs).elim (fun f => absurd f.1 (by simp [h _ f.2])) (·.2)
  have ⟨hread, hdir⟩ := absent fs path (h path (by simp [candidates]))
  rw [file_step, hr, hread]
  simp only [hdir, Bool.false_eq_true, if_false]

/-- a file that exists in some directory of the include set (or as written) is found: the path
    read from exists -/
theorem found_when_present (fs : Fs) (path : Str) (incs : List Str) (c : Str)
    (hc : c ∈ candidates path incs) (hex : fs.exists c = true) :
    fs.exists (resolve fs path incs) = true ∧ resolve fs path incs ∈ candidates path incs :=
  (resolve_cases fs path incs).elim id fun n => absurd hex (by simp [n.1 c hc])

/-! ### what the include set contains -/

theorem mem_pathsInsert (p : Str) : ∀ (incs : List Str), ∃ q ∈ pathsInsert p incs, pathEq p q = true
  | [] => ⟨p, List.mem_cons_self, by simp [pathEq]⟩
  | a :: rest => by
    unfold pathsInsert
    split
    · exact ⟨a, List.mem_cons_self, ‹_›⟩
    · split
      · exact ⟨p, List.mem_cons_self, by simp [pathEq]⟩
      · obtain ⟨q, hq, he⟩ := mem_pathsInsert p rest
        exact ⟨q, List.mem_cons_of_mem _ hq, he⟩

theorem pathsInsert_keeps (p q : Str) : ∀ (incs : List Str), q ∈ incs → q ∈ pathsInsert p incs
  | a :: rest, h => by
    unfold pathsInsert
    split
    · exact h
    · split
      · exact List.mem_cons_of_mem _ h
      · rcases List.mem_cons.1 h with rfl | h
        · exact List.mem_cons_self
        · exact List.mem_cons_of_mem _ (pathsInsert_keeps p q rest h)

/-- inside a file, the file's own directory is searched (the directory of the including file,
    for the includes that file makes), and every directory the includer searched still is -/
theorem own_directory_searched (resolved par : Str) (incs : List Str) (h : pathParent resolved = some par) :
    (∃ q ∈ insideSet resolved incs, pathEq par q = true) ∧ ∀ q ∈ incs, q ∈ insideSet resolved incs := by
  unfold insideSet; rw [h]
  exact ⟨mem_pathsInsert par incs, fun q hq => pathsInsert_keeps par q incs hq⟩

/-- every directory supplied by the caller is in the main file's include set: it is there once it
    has been inserted, and the insertions after it keep it -/
theorem caller_directories_searched (dirs : List Str) (p : Str) (hp : p ∈ dirs) :
    ∃ q ∈ dirs.foldl (fun acc p => pathsInsert p acc) [], pathEq p q = true := by
  obtain ⟨l, r, rfl⟩ := List.append_of_mem hp
  rw [List.foldl_append, List.foldl_cons]
  exact List.foldlRecOn (motive := fun acc => ∃ q ∈ acc, pathEq p q = true) r _ (mem_pathsInsert p _)
    fun acc ⟨q, hq, he⟩ a _ => ⟨q, pathsInsert_keeps a q acc hq, he⟩

/-- `.includepath` adds its directory to the set of THIS file from the next line on: an absolute
    one as written, a relative one resolved against the directory of the file containing the
    directive (`cur`) -/
theorem includepath_step (inc : IncludeFn) (cur : Str) (incs : List Str) (st : PState) (path : Str) (ln : Nat)
    (par : Str) (hpar : pathParent cur = some par) :
    directiveParse inc cur incs st .includepath (.opList [.s path]) ln =
      .ok (st, pathsInsert (if isAbs path then path else pathPush par path) incs, .newLine) := by
  unfold directiveParse
  dsimp only [List.head?_cons]
  rw [hpar]
  cases isAbs path <;> rfl

/-- directories added by `.includepath` inside an included file stay in force for the including
    file afterwards (as they would if the file's lines stood in its place): whatever is in the
    file's final set, other than the file's own directory, is handed back; and nothing the
    includer had is lost -/
theorem writeBack_keeps (own : Option Str) : ∀ (incsFile incs : List Str) (q : Str), q ∈ incs →
    q ∈ writeBack own incsFile incs := by
  intro incsFile incs q h
  refine List.foldlRecOn (motive := (q ∈ ·)) incsFile _ h fun acc hacc a _ => ?_
  split
  · exact hacc
  · exact pathsInsert_keeps a q acc hacc

/-! ### `.exit` ends only the file it is in -/

/-- `.exit` asks the loop of THIS file to stop … -/
theorem exit_step (inc : IncludeFn) (cur : Str) (incs : List Str) (st : PState) (ops : DirectiveOps) (ln : Nat) :
    directiveParse inc cur incs st .exit ops ln = .ok (st, incs, .endFile) := rfl

/-- … which it does whatever lines remain, keeping the state reached; by `file_step` and
    `include_step` the including file then continues with its next line (`.newLine`) -/
theorem exit_ends_this_file (inc : IncludeFn) (cur : Str) (s : PState × List Str) (ls : List (Nat × Str)) :
    runFrom inc cur s .endFile ls = .ok s := by
  rw [runFrom_step]; simp [skipStep]

/-! ### pasting -/

/-- **Pasted text.**  When the loop works its way through the lines `ls` completely (no
    conditional or macro definition is left open at their end, no `.exit`), then those lines
    followed by more text `post` behave as: the state `ls` leaves, then `post` with nothing
    pending.  (`Lemmas.Paste.run_append`, for any include handler and any current file.) -/
theorem pasted_lines (inc : IncludeFn) (cur : Str) (s s' : PState × List Str) (ls post : List (Nat × Str))
    (h : Completes inc cur s .newLine ls s') :
    runFrom inc cur s .newLine (ls ++ post) = runFrom inc cur s' .newLine post :=
  run_append inc cur s .newLine ls s' h post

/-- **Included text.**  Under the same condition on the file's lines, the line
    `.include "path"` followed by `post` behaves as: the state the file's lines leave (run in the
    FILE's context: its path as current file, its own directory searched), then `post` with
    nothing pending, in the includer's context, with the include set the file hands back.
    This is `pasted_lines` up to exactly what the property says differs between the two: where
    relative `.includepath`s and nested `.include`s of the file resolve, and the line numbers
    (the file's lines are numbered from 1 in their own file).  A file whose lines do NOT complete
    (an `.if` or `.macro` left open) is the recorded finding: the skip ends with the file. -/
theorem included_lines (fs : Fs) (d : Nat) (cur : Str) (incs : List Str) (st : PState) (idx : Nat) (text path : Str)
    (post : List (Nat × Str)) (src : Str) (s' : PState × List Str)
    (hp : parseLine text = (some (.directiveLine none .include (.opList [.s path])), false))
    (hread : fs.read (resolve fs path incs) = some src)
    (hC : Completes (parseFileAt fs d) (resolve fs path incs) (st, insideSet (resolve fs path incs) incs) .newLine
            (numbered (lines src)) s') :
    runFrom (parseFileAt fs (d + 1)) cur (st, incs) .newLine ((idx, text) :: post) =
      runFrom (parseFileAt fs (d + 1)) cur (s'.1, writeBack (ownDir (resolve fs path incs) incs) s'.2 incs) .newLine post := by
  have hstep : lineStep (parseFileAt fs (d + 1)) cur incs st idx text false =
      .ok (s'.1, writeBack (ownDir (resolve fs path incs) incs) s'.2 incs, .newLine) := by
    simp only [lineStep, hp, reduceCtorEq, false_or, false_and, if_false, include_step, file_step, hread,
      run_alone _ _ _ _ _ _ hC]
  rw [runFrom_step]
  simp only [skipStep, hstep]

/-! non-vacuity: a file found through a directory of the include set; one found nowhere -/
example : resolve { cwd := ['/'], files := [(['/', 'd', '/', 'x'], [])], dirs := [['/', 'd']] } ['x'] [['/', 'd']] = ['/', 'd', '/', 'x'] := by decide +kernel
example : ∀ c ∈ candidates ['y'] [['/', 'd']], Fs.exists { cwd := ['/'], files := [(['/', 'd', '/', 'x'], [])], dirs := [['/', 'd']] } c = false := by decide +kernel

end Avra.Props.C11
