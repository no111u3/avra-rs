/-
  C05 (parse side) — the grammar reads an expression written with only the parentheses the
  operator table requires as exactly that expression: precedence of the ten levels, left
  associativity, prefix operators binding tightest.

  More fuel never changes an answer of the model's expression parser (`Fuel.mono`), so its answers
  are described without fuel (`EvI`, `EvPA`, `EvL`, instances of `Fuel.Ans`).  `Spaced` is
  every way of writing an expression with blanks and further parentheses; `render` is the
  minimally parenthesised text; `parse_print_spaced` is the theorem, `parse_print` its case for
  `render`.  The operator tables are the regenerated ones (`Gen.opLevels`): `table_entry`,
  `table_others`, `table_levels` rest on `C09.table_checked`, which is decided over them on every run.
-/
import Avra.Props.C09w
import Avra.Props.C05
namespace Avra.Props.C05pp
open Avra.Model Avra.Peg Avra.Lemmas.Fuel Avra.Props.C14 Avra.Props.C09 Avra.Chars

/-! ### what the parser answers, whatever (sufficient) fuel it is given

  Instances of `Fuel.Ans`; the rules below and the `evPA_*` further down are how the proofs use them:
  one rule per way an answer is built (the cases of `Fuel.Closed`, read from the parts to the
  answer).  The grammar's choice is ordered, so each rule carries the premises under which the
  alternatives tried before it fail on its text. -/

def EvI (m : Nat) (s : Str) (res : PR Expr) : Prop := res ≠ .oof ∧ ∃ f, parseInfix f m s = res
def EvPA (s : Str) (res : PR Expr) : Prop := res ≠ .oof ∧ ∃ f, parsePrefixAtom f s = res
def EvL (m : Nat) (e : Expr) (s : Str) (res : PR Expr) : Prop := res ≠ .oof ∧ ∃ f, parseLoop f m e s = res

theorem EvI.at {m s res} (h : EvI m s res) : ∃ f, ∀ f', f ≤ f' → parseInfix f' m s = res := Ans.at (persistI m s) h
theorem EvL.at {m e s res} (h : EvL m e s res) : ∃ f, ∀ f', f ≤ f' → parseLoop f' m e s = res := Ans.at (persistL m e s) h
theorem EvPA.at {s res} (h : EvPA s res) : ∃ f, ∀ f', f ≤ f' → parsePrefixAtom f' s = res := Ans.at (persistPA s) h

theorem evI_intro (m : Nat) (s : Str) (e : Expr) (r : Str) (res : PR Expr) (h1 : EvPA s (.ok e r)) (h2 : EvL m e r res) :
    EvI m s res := by
  obtain ⟨f1, hf1⟩ := h1.at
  obtain ⟨f2, hf2⟩ := h2.at
  refine ⟨h2.1, max f1 f2 + 1, ?_⟩
  simp only [parseInfix]
  rw [hf1 _ (Nat.le_max_left ..)]
  exact hf2 _ (Nat.le_max_right ..)

theorem expr_of_evI (s : Str) (res : PR Expr) (h : EvI 0 s res) : expr s = res :=
  Ans.at_fuel (persistI 0 s) h (expr_no_oof s)

/-- an entry that cannot apply here: its level is below the minimum, its text is not there, or
    what follows its text starts no operand -/
def Passes (m : Nat) (x : Ent) (s : Str) : Prop :=
  x.2.2.1 < m ∨ lit x.1 (skipSpace s) = none ∨
    ∃ y ys, lit x.1 (skipSpace s) = some (y :: ys) ∧ noStart y ∧ isSpace y = false

/-- the two rules of the loop: it ends, or it takes an entry.  The scan of the table up to that
    entry is `C14.tryInfix_pass`, stated with fuel; behind these two rules it is not seen again. -/
theorem evL_end (m : Nat) (e : Expr) (s : Str) (h : ∀ x ∈ infixOps, Passes m x s) : EvL m e s (.ok e s) := by
  refine ⟨by simp, (((s.length + 1) * K + 1) + infixOps.length) + 1, ?_⟩
  have := tryInfix_pass m e s s infixOps h [] _ (Nat.le_succ _)
  rw [List.append_nil] at this
  simp only [parseLoop]
  rw [this]; rfl

theorem evL_take {m : Nat} {e : Expr} {s : Str} {pre post : List Ent} {t : Str} {b : BinOp} {lv rlv : Nat}
    (hs : infixOps = pre ++ (t, b, lv, rlv) :: post) (hp : ∀ x ∈ pre, Passes m x s) (hlv : ¬ lv < m) {s1 : Str}
    (hlit : lit t (skipSpace s) = some s1) {r : Expr} {rest : Str} (hr : EvI rlv (skipSpace s1) (.ok r rest))
    {res : PR Expr} (hl : EvL m (.bin b e r) rest res) : EvL m e s res := by
  obtain ⟨f1, hf1⟩ := hr.at
  obtain ⟨f2, hf2⟩ := hl.at
  refine ⟨hl.1, ((f1 + f2 + (s.length + 1) * K + 1) + pre.length) + 1, ?_⟩
  simp only [parseLoop]
  rw [hs, tryInfix_pass m e s s pre hp _ _ (by omega)]
  simp only [tryInfix, hlv, if_false, hlit]
  rw [hf1 _ (by omega)]
  exact hf2 _ (by omega)

/-! ### the minimally parenthesised rendering -/

def opLevel (op : BinOp) : Nat :=
  match splitOp op infixOps with
  | some (_, e, _) => e.2.2.1
  | none => 0

/-- above every level of the table: the operand of a prefix operator is rendered there -/
def top : Nat := 100

/-- an expression with only the parentheses the table requires: a binary operation is put in
    parentheses exactly where its level is below the level asked for (left operand: the operator's
    own level; right operand: one above; operand of a prefix operator: `top`) -/
def render : Nat → Expr → Str
  | _, .ident s => s
  | _, .const v => intToDec v
  | _, .func n a => exprText n ++ '(' :: render 0 a ++ [')']
  | _, .un u e => u.text ++ render top e
  | m, .bin op l r =>
    let b := render (opLevel op) l ++ op.text ++ render (opLevel op + 1) r
    if opLevel op < m then '(' :: b ++ [')'] else b

theorem table_entry (op : BinOp) : ∃ pre post, infixOps = pre ++ (op.text, op, opLevel op, opLevel op + 1) :: post ∧
    ∀ x ∈ pre, okBefore x.1 op.text = true := by
  have h := table_checked op
  unfold checkOp at h
  unfold opLevel
  split at h
  · rename_i pre e post hs
    obtain ⟨hl, he⟩ := splitOp_spec op _ _ _ _ hs
    obtain ⟨t, b, lv, rl⟩ := e
    simp only [Bool.and_eq_true, beq_iff_eq, List.all_eq_true] at h
    obtain ⟨⟨h1, h2⟩, h3⟩ := h
    simp only at he h1 h2
    subst he; subst h1; subst h2
    rw [hs]
    exact ⟨pre, post, hl, h3⟩
  · simp at h

/-- every other entry of the table loses against an operator's text -/
theorem table_others : ∀ op : BinOp, ∀ x ∈ infixOps, x.2.1 ≠ op → okBefore x.1 op.text = true := by
  intro op; cases op <;> decide +kernel

theorem table_levels : ∀ x ∈ infixOps, x.2.2.1 < top ∧ x.2.2.1 = opLevel x.2.1 := by decide +kernel

theorem prefix_levels : ∀ x ∈ prefixOps, x.2.2 ≤ top := by decide

def EndAt (m : Nat) (rest : Str) : Prop := ∀ x ∈ infixOps, Passes m x rest

theorem endAt_mono (m m' : Nat) (h : m ≤ m') (rest : Str) (he : EndAt m rest) : EndAt m' rest := by
  intro x hx
  rcases he x hx with h1 | h2
  · exact Or.inl (by omega)
  · exact Or.inr h2

theorem endAt_top (m : Nat) (h : top ≤ m) (rest : Str) : EndAt m rest := by
  intro x hx
  exact Or.inl (by have := (table_levels x hx).1; omega)

theorem skip_op (op : BinOp) (rest : Str) : skipSpace (op.text ++ rest) = op.text ++ rest := by
  obtain ⟨y, hy, ys, ht⟩ := op_text_head op
  rw [ht]; exact skipSpace_cons (opChars_class _ hy).2.1 _

theorem endAt_nil (m : Nat) : EndAt m [] := fun x hx => Or.inr (opEnd_end [] [] blanks_nil (Or.inl rfl) x hx)

theorem atomEnd_nil : AtomEnd [] := by intro y hy; simp at hy

/-- above every level of the table the loop takes nothing: what is read at level `top` is an operand -/
theorem evPA_of_top (s : Str) (e : Expr) (rest : Str) (h : EvI top s (.ok e rest)) : EvPA s (.ok e rest) := by
  obtain ⟨_, f, hf⟩ := h
  cases f with
  | zero => simp [parseInfix] at hf
  | succ f =>
    simp only [parseInfix] at hf
    split at hf
    · rename_i e1 r1 hp
      rw [Ans.unique (persistL top e1 r1) ⟨by simp, f, hf⟩ (evL_end top e1 r1 (endAt_top top (Nat.le_refl _) r1))]
      exact ⟨by simp, f, hp⟩
    · simp at hf
    · simp at hf

/-! ### blanks anywhere between the tokens, and parentheses that are not needed -/

/-- what may follow an operand when blanks are allowed: no identifier character directly behind
    it and, after the blanks, no `(` -/
def AtomEndB (rest : Str) : Prop :=
  (∀ y, rest.head? = some y → isIdentChar y = false) ∧ ∀ r2, skipSpace rest ≠ '(' :: r2

theorem atomEndB_of (rest : Str) (h : AtomEnd rest) : AtomEndB rest := by
  refine ⟨fun y hy => (h y hy).1, ?_⟩
  intro r2 hr
  cases rest with
  | nil => simp [skipSpace] at hr
  | cons y ys =>
    have hy := h y rfl
    simp [skipSpace, hy.2.2] at hr
    exact hy.2.1 hr.1

theorem atomEndB_blanks (w rest : Str) (hw : blanks w) (hrest : AtomEndB rest) : AtomEndB (w ++ rest) :=
  ⟨endsToken_blanks w rest hw hrest.1, fun r2 => by rw [space_absorbs w rest hw]; exact hrest.2 r2⟩

theorem evPA_of_atom {s : Str} {res : PR Expr} (hs : ∀ x ∈ prefixOps, lit x.1 s = none) (f : Nat)
    (h : atomWith (parseInfix f 0) s = res) (hn : res ≠ .oof) : EvPA s res :=
  ⟨hn, (f + 1) + prefixOps.length + 2, by rw [prefixAtom_atom _ hs, parseAtom_succ]; exact h⟩

theorem prefix_none_name (x : Char) (hx : isIdentStart x = true) (ys : Str) : ∀ y ∈ prefixOps, lit y.1 (x :: ys) = none :=
  have fx := identStart_facts x hx
  prefix_none_of x ys ⟨fx.2.2.2.2.2.1, fx.2.2.2.2.2.2.1, fx.2.2.2.2.2.2.2.1⟩

theorem evPA_ident (s : Str) (hs : isName s) (rest : Str) (hr : AtomEndB rest) : EvPA (s ++ rest) (.ok (.ident s) rest) := by
  obtain ⟨x, xs, rfl, hx, hxs⟩ := hs
  have fx := identStart_facts x hx
  have hid : identText ((x :: xs) ++ rest) = some (x :: xs, rest) := identText_name _ rest ⟨x, xs, rfl, hx, hxs⟩ hr.1
  have hec : eConst ((x :: xs) ++ rest) = none := by
    have h1 : ¬ '$' = x := fun h => fx.2.2.1 h.symm
    have h0 : ¬ '0' = x := fun h => fx.2.2.2.2.2.2.2.2 h.symm
    simp [eConst, constAlt, lit, takeWhileP, fx.1, h1, h0]
  have hch : ch ((x :: xs) ++ rest) = none := ch_none fx.2.2.2.2.1 _
  refine evPA_of_atom (prefix_none_name x hx _) 0 ?_ (by simp)
  rw [atomWith_leaf (funcAlt_no_paren hid hr.2) (parenAlt_fail fx.2.2.2.1)]
  simp only [leafAlt, hec, hch, hid]

theorem evPA_num (v : Int) (n : Nat) (t : Str) (hv : v = (n : Int)) (hn : NumText t n) (rest : Str) (hr : endsToken rest) :
    EvPA (t ++ rest) (.ok (.const v) rest) := by
  obtain ⟨y, ys, hs, hy⟩ := numText_head _ n hn rest
  refine ⟨by simp, (0 + 1) + prefixOps.length + 2, ?_⟩
  rw [prefixAtom_atom _ (by rw [hs]; exact prefix_none_num y ys hy)]
  rw [parseAtom_num _ n hn rest hr 0, hv]

theorem evPA_chr (c : Char) (hc : notChEnd c = true) (rest : Str) :
    EvPA ('\'' :: c :: '\'' :: rest) (.ok (.const (c.toNat : Int)) rest) := by
  have hec : eConst ('\'' :: c :: '\'' :: rest) = none := by simp +decide [eConst, constAlt, lit, takeWhileP]
  have hch : ch ('\'' :: c :: '\'' :: rest) = some (c, rest) := by simp [ch, hc]
  refine evPA_of_atom (prefix_none_of '\'' _ (by decide)) 0 ?_ (by simp)
  rw [atomWith_leaf (funcAlt_none (by simp +decide [identText])) (parenAlt_fail (by decide))]
  simp only [leafAlt, hec, hch]

theorem evPA_const (v : Int) (n : Nat) (hv : v = (n : Int)) (hfit : n < 2 ^ 63) (rest : Str) (hr : AtomEndB rest) :
    EvPA (intToDec v ++ rest) (.ok (.const v) rest) :=
  evPA_num v n _ hv (by rw [hv]; exact numText_intToDec n hfit) rest hr.1

/-! #### an operator between its operands

  Behind the text of `op` stand blanks and then the first character of an operand: no character
  that would make a longer operator token of it (`after_op`).  So every entry that loses against
  that text is passed over (`passes_before`), and the two facts the climbing needs follow from the
  table: above the level of `op` the loop ends here (`endAt_op`), from that level down it takes
  `op` and reads its right operand one level higher (`evL_op`). -/

theorem after_op {w : Str} (hw : blanks w) {y : Char} (hy : StartChar y) (ys : Str) :
    ∃ c rest, w ++ y :: ys = c :: rest ∧ ¬ nonStart c := by
  cases w with
  | nil => exact ⟨y, ys, rfl, startChar_not_nonStart y hy⟩
  | cons c cs => exact ⟨c, cs ++ y :: ys, rfl, fun h => by have := (nonStart_noStart c h).2; simp [hw c (by simp)] at this⟩

section
variable (op : BinOp) {w1 w2 : Str} (hw1 : blanks w1) (hw2 : blanks w2) {y : Char} (hy : StartChar y) (ys : Str) (m : Nat)
include hw1 hw2 hy

theorem passes_before (x : Ent) (hx : okBefore x.1 op.text = true) : Passes m x (w1 ++ (op.text ++ (w2 ++ y :: ys))) := by
  obtain ⟨c, rest, hcr, hc⟩ := after_op hw2 hy ys
  rw [hcr]
  right
  rw [space_absorbs w1 _ hw1, skip_op]
  exact (lit_beforeB x.1 op.text hx c rest hc).imp id fun ⟨z, zs, h, hz⟩ => ⟨z, zs, h, nonStart_noStart z hz⟩

theorem endAt_op (hm : opLevel op < m) : EndAt m (w1 ++ (op.text ++ (w2 ++ y :: ys))) := by
  intro x hx
  by_cases hlv : x.2.2.1 < m
  · exact Or.inl hlv
  · refine passes_before op hw1 hw2 hy ys m x (table_others op x hx fun h => ?_)
    have := (table_levels x hx).2
    rw [h] at this
    omega

theorem evL_op (hm : m ≤ opLevel op) (l r : Expr) (rest : Str) (res : PR Expr)
    (hr : EvI (opLevel op + 1) (y :: ys) (.ok r rest)) (hl : EvL m (.bin op l r) rest res) :
    EvL m l (w1 ++ (op.text ++ (w2 ++ y :: ys))) res := by
  obtain ⟨pre, post, hs, hpre⟩ := table_entry op
  refine evL_take hs (fun x hx => passes_before op hw1 hw2 hy ys m x (hpre x hx)) (by omega) (s1 := w2 ++ y :: ys) ?_ ?_ hl
  · rw [space_absorbs w1 _ hw1, skip_op]; exact lit_append _ _
  · rw [space_absorbs w2 _ hw2, skipSpace_cons (startChar_noSpace y hy)]; exact hr

end

theorem atomEndB_op (w : Str) (hw : blanks w) (op : BinOp) (rest : Str) : AtomEndB (w ++ (op.text ++ rest)) :=
  atomEndB_blanks w _ hw (atomEndB_of _ (atomEnd_op op rest))

/-! #### operands with blanks inside -/

theorem skip_close (w rest : Str) (hw : blanks w) : skipSpace (w ++ ')' :: rest) = ')' :: rest :=
  skip_blanks_to w _ hw (skipSpace_cons (by decide) _)

theorem evPA_parenB (w0 w1 s' : Str) (e : Expr) (rest : Str) (hw0 : blanks w0) (hw1 : blanks w1) (hsk : skipSpace s' = s')
    (h : EvI 0 s' (.ok e (w1 ++ ')' :: rest))) : EvPA ('(' :: (w0 ++ s')) (.ok e rest) := by
  obtain ⟨f0, hf0⟩ := h.2
  refine evPA_of_atom (prefix_none_of '(' _ (by decide)) f0 ?_ (by simp)
  simp only [atomWith, alt, funcAlt_none (show identText ('(' :: (w0 ++ s')) = none by simp +decide [identText])]
  show alt (closing id (parseInfix f0 0 (skipSpace (w0 ++ s')))) _ = _
  rw [skip_blanks_to w0 s' hw0 hsk, hf0, closing_paren (skip_close w1 rest hw1)]
  rfl

theorem evPA_funcB (name w0 w1 w2 s' : Str) (a : Expr) (rest : Str) (hname : isName name) (hw0 : blanks w0) (hw1 : blanks w1)
    (hw2 : blanks w2) (hsk : skipSpace s' = s') (h : EvI 0 s' (.ok a (w2 ++ ')' :: rest))) :
    EvPA (name ++ (w0 ++ '(' :: (w1 ++ s'))) (.ok (.func (.ident name) a) rest) := by
  obtain ⟨f0, hf0⟩ := h.2
  obtain ⟨x, xs, rfl, hx, hxs⟩ := hname
  have hid : identText ((x :: xs) ++ (w0 ++ '(' :: (w1 ++ s'))) = some (x :: xs, w0 ++ '(' :: (w1 ++ s')) :=
    identText_name _ _ ⟨x, xs, rfl, hx, hxs⟩ (endsToken_blanks w0 _ hw0 fun y hy => by simp at hy; subst hy; decide)
  have hsk1 : skipSpace (w0 ++ '(' :: (w1 ++ s')) = '(' :: (w1 ++ s') :=
    skip_blanks_to w0 _ hw0 (skipSpace_cons (by decide) _)
  refine evPA_of_atom (prefix_none_name x hx _) f0 ?_ (by simp)
  simp only [atomWith, alt, funcAlt_call hid hsk1]
  rw [skip_blanks_to w1 s' hw1 hsk, hf0, closing_paren (skip_close w2 rest hw2)]

theorem evPA_unB (u : UnOp) (w s' : Str) (e : Expr) (rest : Str) (hw : blanks w) (hsk : skipSpace s' = s')
    (h : ∀ lv, lv ≤ top → (∀ x ∈ infixOps, x.2.2.1 < lv) → EvI lv s' (.ok e rest)) :
    EvPA (u.text ++ (w ++ s')) (.ok (.un u e) rest) := by
  obtain ⟨pre, lv, post, hsplit, hpre, hlv⟩ := un_split u
  have hle : lv ≤ top := prefix_levels (u.text, u, lv) (by rw [hsplit]; simp)
  obtain ⟨f0, hf0⟩ := (h lv hle hlv).at
  refine ⟨by simp, ((f0 + 1) + pre.length) + 1, ?_⟩
  simp only [parsePrefixAtom]
  rw [hsplit, tryPrefix_skip _ pre fun x hx => hpre x hx _]
  simp only [tryPrefix, lit_append, prefixSpace_on, if_true, skip_blanks_to w s' hw hsk, hf0 f0 (Nat.le_refl _)]

theorem evPA_un (u : UnOp) (s' : Str) (e : Expr) (rest : Str) (hsk : skipSpace s' = s')
    (h : ∀ lv, (∀ x ∈ infixOps, x.2.2.1 < lv) → EvI lv s' (.ok e rest)) : EvPA (u.text ++ s') (.ok (.un u e) rest) :=
  evPA_unB u [] s' e rest blanks_nil hsk fun lv _ => h lv

/-! #### the texts -/

/-- `Spaced m k e s`: `s` is a way of writing `e` where level `m` is asked for — any blanks
    between the tokens, parentheses where the table requires them AND wherever else one likes;
    `k` is the level above which the text behind `s` has to end the loop (`top` behind an operand,
    one above the operator behind an open binary operation) -/
inductive Spaced : Nat → Nat → Expr → Str → Prop
  | ident (m : Nat) (s : Str) : isName s → Spaced m top (.ident s) s
  | num (m : Nat) (v : Int) (n : Nat) (t : Str) : v = (n : Int) → NumText t n → Spaced m top (.const v) t
  | chr (m : Nat) (c : Char) : notChEnd c = true → Spaced m top (.const (c.toNat : Int)) ['\'', c, '\'']
  | un (m k : Nat) (u : UnOp) (e : Expr) (w s : Str) : blanks w → Spaced top k e s →
      Spaced m top (.un u e) (u.text ++ (w ++ s))
  | func (m k : Nat) (name : Str) (a : Expr) (w0 w1 w2 s : Str) : isName name → blanks w0 → blanks w1 → blanks w2 →
      Spaced 0 k a s → Spaced m top (.func (.ident name) a) (name ++ (w0 ++ '(' :: (w1 ++ (s ++ (w2 ++ [')'])))))
  | bin (m kl kr : Nat) (op : BinOp) (l r : Expr) (w1 w2 sl sr : Str) : ¬ opLevel op < m → blanks w1 → blanks w2 →
      Spaced (opLevel op) kl l sl → Spaced (opLevel op + 1) kr r sr →
      Spaced m (opLevel op + 1) (.bin op l r) (sl ++ (w1 ++ (op.text ++ (w2 ++ sr))))
  | paren (m k : Nat) (e : Expr) (w0 w1 s : Str) : blanks w0 → blanks w1 → Spaced 0 k e s →
      Spaced m top e ('(' :: (w0 ++ (s ++ (w1 ++ [')']))))

/-- a number below 2^63 in decimal -/
theorem Spaced.const (m : Nat) (v : Int) (n : Nat) (hv : v = (n : Int)) (hfit : n < 2 ^ 63) : Spaced m top (.const v) (intToDec v) :=
  .num m v n (intToDec v) hv (by rw [hv]; exact numText_intToDec n hfit)

/-- what the level `k` is for: behind a text written for level `m`, the loop has to end only from `m + 1` on -/
theorem spaced_endAt {m k : Nat} {e : Expr} {s : Str} (h : Spaced m k e s) {rest : Str} (he : EndAt (m + 1) rest) :
    EndAt k rest := by
  cases h with
  | bin _ _ _ op _ _ _ _ _ _ hlv _ _ _ _ => exact endAt_mono _ _ (by omega) rest he
  | _ => exact endAt_top top (Nat.le_refl _) rest

theorem spaced_head (m k : Nat) (e : Expr) (s : Str) (h : Spaced m k e s) : ∃ y ys, s = y :: ys ∧ StartChar y := by
  induction h with
  | ident m s hs => obtain ⟨x, xs, rfl, hx, _⟩ := hs; exact ⟨x, xs, rfl, Or.inl hx⟩
  | num m v n t hv hnt => obtain ⟨⟨y, ys, hy, hd⟩, _⟩ := hnt; exact ⟨y, ys, hy, hd.elim (fun h => .inr (.inl h)) fun h => by simp [StartChar, h]⟩
  | chr m c hc => exact ⟨'\'', _, rfl, by unfold StartChar; decide⟩
  | un m k u e w s _ _ _ => cases u <;> exact ⟨_, _, rfl, by unfold StartChar; decide⟩
  | func m k name a w0 w1 w2 s hn _ _ _ _ _ => obtain ⟨x, xs, rfl, hx, _⟩ := hn; exact ⟨x, _, rfl, Or.inl hx⟩
  | bin m kl kr op l r w1 w2 sl sr _ _ _ _ _ ihl _ => obtain ⟨y, ys, hy, hs⟩ := ihl; exact ⟨y, _, by rw [hy]; rfl, hs⟩
  | paren m k e w0 w1 s _ _ _ _ => exact ⟨'(', _, rfl, by unfold StartChar; decide⟩

theorem skip_spaced (m k : Nat) (e : Expr) (s : Str) (h : Spaced m k e s) (rest : Str) : skipSpace (s ++ rest) = s ++ rest := by
  obtain ⟨y, ys, hy, hs⟩ := spaced_head m k e s h
  rw [hy]; exact skipSpace_cons (startChar_noSpace y hs) _

/-- parsing the text brings the loop to the expression, at any minimum level up to the one asked for -/
def GoesS (m k : Nat) (e : Expr) (s : Str) : Prop :=
  ∀ mp rest res, mp ≤ m → AtomEndB rest → EndAt k rest → EvL mp e rest res → EvI mp (s ++ rest) res

theorem goesS_operand {m k : Nat} {e : Expr} {s : Str} (h : ∀ rest, AtomEndB rest → EvPA (s ++ rest) (.ok e rest)) :
    GoesS m k e s :=
  fun mp rest res _ hr _ hl => evI_intro mp _ e rest res (h rest hr) hl

theorem closedS (m k : Nat) (e : Expr) (s : Str) (hsp : Spaced m k e s) (hg : GoesS m k e s) (rest : Str)
    (hr : AtomEndB rest) (he : EndAt m rest) : EvI m (s ++ rest) (.ok e rest) :=
  hg m rest _ (Nat.le_refl _) hr (spaced_endAt hsp (endAt_mono _ _ (Nat.le_succ m) rest he)) (evL_end m e rest he)

theorem closedS_paren (k : Nat) (e : Expr) (s : Str) (hsp : Spaced 0 k e s) (hg : GoesS 0 k e s) (w rest : Str)
    (hw : blanks w) : EvI 0 (s ++ (w ++ ')' :: rest)) (.ok e (w ++ ')' :: rest)) :=
  closedS 0 k e s hsp hg _ (atomEndB_blanks w _ hw (atomEndB_of _ (atomEnd_paren rest))) fun x hx =>
    Or.inr (opEnd_char w hw (by decide) (by decide) rest x hx)

theorem goesS (m k : Nat) (e : Expr) (s : Str) (h : Spaced m k e s) : GoesS m k e s := by
  induction h with
  | ident m s hs => exact goesS_operand fun rest hr => evPA_ident s hs rest hr
  | num m v n t hv hnt => exact goesS_operand fun rest hr => evPA_num v n t hv hnt rest hr.1
  | chr m c hc => exact goesS_operand fun rest _ => evPA_chr c hc rest
  | un m k u e w s hw hsp ih =>
    refine goesS_operand fun rest hr => ?_
    simp only [List.append_assoc]
    refine evPA_unB u w _ e rest hw (skip_spaced _ _ _ _ hsp rest) fun lv hle hlv => ?_
    exact ih lv rest _ hle hr (spaced_endAt hsp (endAt_top _ (Nat.le_succ _) rest))
      (evL_end lv e rest fun x hx => Or.inl (hlv x hx))
  | func m k name a w0 w1 w2 s hn hw0 hw1 hw2 hsp ih =>
    refine goesS_operand fun rest _ => ?_
    simp only [List.append_assoc, List.cons_append, List.nil_append]
    exact evPA_funcB name w0 w1 w2 _ a rest hn hw0 hw1 hw2 (skip_spaced _ _ _ _ hsp _) (closedS_paren k a s hsp ih w2 rest hw2)
  | paren m k e w0 w1 s hw0 hw1 hsp ih =>
    refine goesS_operand fun rest _ => ?_
    simp only [List.append_assoc, List.cons_append, List.nil_append]
    exact evPA_parenB w0 w1 _ e rest hw0 hw1 (skip_spaced _ _ _ _ hsp _) (closedS_paren k e s hsp ih w1 rest hw1)
  | bin m kl kr op l r w1 w2 sl sr hlv hw1 hw2 hspl hspr ihl ihr =>
    intro mp rest res hmp hr he hloop
    -- the right operand is read one level above `op`; the left one brings the loop to `op`
    have hR := closedS _ kr r sr hspr ihr rest hr he
    obtain ⟨y, ys, rfl, hy⟩ := spaced_head _ _ _ _ hspr
    simp only [List.append_assoc, List.cons_append] at hR ⊢
    exact ihl mp _ res (by omega) (atomEndB_op w1 hw1 op _)
      (spaced_endAt hspl (endAt_op op hw1 hw2 hy _ _ (Nat.lt_succ_self _)))
      (evL_op op hw1 hw2 hy _ mp (by omega) l r rest res hR hloop)

/-- **parse (print e) = e with blanks and with parentheses that are not needed**: every way of
    writing an expression with any blanks and tabs between its tokens — after prefix operators,
    around binary operators, inside and outside parentheses, between a function name and its
    parenthesis — with the parentheses the operator table requires and any number of further ones,
    is read by `expr()` as exactly that expression -/
theorem parse_print_spaced (k : Nat) (e : Expr) (s : Str) (h : Spaced 0 k e s) (rest : Str) (hr : AtomEndB rest)
    (he : EndAt 0 rest) : expr (s ++ rest) = .ok e rest :=
  expr_of_evI _ _ (closedS 0 k e s h (goesS 0 k e s h) rest hr he)

theorem parse_print_spaced_whole (k : Nat) (e : Expr) (s : Str) (h : Spaced 0 k e s) : expr s = .ok e [] := by
  have := parse_print_spaced k e s h [] (atomEndB_of [] atomEnd_nil) (endAt_nil 0)
  simpa using this

/-- the minimal rendering is one of these texts -/
theorem spaced_render (e : Expr) (h : Wf e) : ∀ m, ∃ k, Spaced m k e (render m e) := by
  induction h with
  | ident s hs => intro m; exact ⟨top, .ident m s hs⟩
  | const v n hv hn => intro m; exact ⟨top, .const m v n hv hn⟩
  | func name a hn ha ih =>
    intro m
    obtain ⟨k, hk⟩ := ih 0
    refine ⟨top, ?_⟩
    have := Spaced.func m k name a [] [] [] (render 0 a) hn blanks_nil blanks_nil
      blanks_nil hk
    simpa [render, exprText] using this
  | un u e he ih =>
    intro m
    obtain ⟨k, hk⟩ := ih top
    refine ⟨top, ?_⟩
    have := Spaced.un m k u e [] (render top e) blanks_nil hk
    simpa [render] using this
  | bin op l r hl hr ihl ihr =>
    intro m
    obtain ⟨kl, hkl⟩ := ihl (opLevel op)
    obtain ⟨kr, hkr⟩ := ihr (opLevel op + 1)
    by_cases hp : opLevel op < m
    · refine ⟨top, ?_⟩
      have hopen := Spaced.bin 0 kl kr op l r [] [] _ _ (Nat.not_lt_zero _) blanks_nil blanks_nil hkl hkr
      have := Spaced.paren m _ (.bin op l r) [] [] _ blanks_nil blanks_nil hopen
      simpa [render, hp] using this
    · refine ⟨opLevel op + 1, ?_⟩
      have := Spaced.bin m kl kr op l r [] [] _ _ hp blanks_nil blanks_nil hkl hkr
      simpa [render, hp] using this

/-! non-vacuity: `a + (2)*low ( b )` -/
example : ∃ k, Spaced 0 k (.bin .add (.ident ['a']) (.bin .mul (.const 2) (.func (.ident ['l', 'o', 'w']) (.ident ['b']))))
    "a + (2)*low ( b )".toList :=
  ⟨_, by
    have h2 := Spaced.paren (opLevel .mul) top (.const 2) [] [] _ blanks_nil blanks_nil (Spaced.const 0 2 2 rfl (by decide))
    have hf := Spaced.func (opLevel .mul + 1) top ['l', 'o', 'w'] (.ident ['b']) [' '] [' '] [' '] _ (isName_cons (by decide))
      blanks_sp blanks_sp blanks_sp (Spaced.ident 0 ['b'] (isName_cons (by decide)))
    exact Spaced.bin 0 top _ .add _ _ [' '] [' '] ['a'] _ (by decide) blanks_sp blanks_sp
      (Spaced.ident _ ['a'] (isName_cons (by decide)))
      (Spaced.bin (opLevel .add + 1) top top .mul _ _ [] [] _ _ (by decide) blanks_nil blanks_nil h2 hf)⟩

/-! non-vacuity: `'A' + 0x1F`, a character literal and a number in another radix as leaves -/
example : Spaced 0 (opLevel .add + 1) (.bin .add (.const (('A' : Char).toNat : Int)) (.const ((value 16 [(false, 1), (true, 15)] : Nat) : Int)))
    "'A' + 0x1F".toList := by
  exact Spaced.bin 0 top top .add _ _ [' '] [' '] ['\'', 'A', '\''] ('0' :: 'x' :: text [(false, 1), (true, 15)]) (by decide)
    blanks_sp blanks_sp (Spaced.chr _ 'A' (by decide))
    (Spaced.num _ _ (value 16 [(false, 1), (true, 15)]) _ rfl (numText_hex _ (by decide) (by decide) (by decide)))

/-! ### the minimal rendering: a special case -/

/-- the level above which the text behind an expression must end the loop: one above the
    operator of an unparenthesised binary operation; nothing is asked behind an operand -/
def endLv (mr : Nat) : Expr → Nat
  | .bin op _ _ => if opLevel op < mr then top else opLevel op + 1
  | _ => top

def Goes (e : Expr) : Prop :=
  ∀ mr m rest res, m ≤ mr → AtomEnd rest → EndAt (endLv mr e) rest →
    EvL m e rest res → EvI m (render mr e ++ rest) res

set_option linter.unusedVariables false in
/-- a binary operation without parentheses around it -/
theorem goes_bin_open (op : BinOp) (l r : Expr) (hl : Wf l) (hr' : Wf r) (ihl : Goes l) (ihr : Goes r)
    (m : Nat) (rest : Str) (res : PR Expr) (hm : m ≤ opLevel op) (hr : AtomEnd rest) (he : EndAt (opLevel op + 1) rest)
    (hloop : EvL m (.bin op l r) rest res) :
    EvI m (render (opLevel op) l ++ (op.text ++ (render (opLevel op + 1) r ++ rest))) res := by
  obtain ⟨kl, hkl⟩ := spaced_render l hl (opLevel op)
  obtain ⟨kr, hkr⟩ := spaced_render r hr' (opLevel op + 1)
  have := goesS m _ _ _ (.bin m kl kr op l r [] [] _ _ (by omega) blanks_nil blanks_nil hkl hkr)
    m rest res (Nat.le_refl _) (atomEndB_of rest hr) he hloop
  simpa using this

/-- **parse (print e) = e** for the rendering with only the parentheses the operator table
    requires: every well-formed expression — any nesting, all 18 binary and 3 unary operators,
    function calls — written without blanks and with only those parentheses (`render`) is read by
    `expr()` as exactly that expression, up to any `rest` that ends an operand -/
theorem parse_print (e : Expr) (h : Wf e) (rest : Str) (hr : AtomEnd rest) (he : EndAt 0 rest) :
    expr (render 0 e ++ rest) = .ok e rest :=
  let ⟨k, hk⟩ := spaced_render e h 0
  parse_print_spaced k e _ hk rest (atomEndB_of rest hr) he

/-- the whole text of a rendered expression is that expression -/
theorem parse_print_whole (e : Expr) (h : Wf e) : expr (render 0 e) = .ok e [] := by
  have := parse_print e h [] atomEnd_nil (endAt_nil 0)
  simpa using this

theorem wf_constsOk (e : Expr) (h : Wf e) : Avra.Props.C05.constsOk e := by
  induction h with
  | ident s _ => trivial
  | const v n hv hn =>
    simp only [Avra.Props.C05.constsOk, inI64, i64Min, i64Max, Bool.and_eq_true]
    constructor <;> (apply decide_eq_true; omega)
  | func name a _ _ ih => exact ⟨trivial, ih⟩
  | bin op l r _ _ ihl ihr => exact ⟨ihl, ihr⟩
  | un u e _ ih => exact ih

/-- **C05 in one statement**: the text of a tree written with only the parentheses the operator
    table requires is read as that tree, and the tree evaluates — in every environment of i64
    values or failures — to exactly the value the documented operator table gives it (and fails
    exactly where the table says the build must fail) -/
theorem rendered_text_has_the_table_value (sym : Str → EvalRes) (hs : ∀ n v, sym n = .ok v → inI64 v = true)
    (e : Expr) (h : Wf e) :
    expr (render 0 e) = .ok e [] ∧
      Avra.Props.C05.toOpt (evalWith sym e) = Avra.Spec.eval (fun n => Avra.Props.C05.toOpt (sym n)) e :=
  ⟨parse_print_whole e h, (Avra.Props.C05.eval_eq_spec sym hs e (wf_constsOk e h)).1⟩

/-! non-vacuity: the renderer puts parentheses where the table requires them and nowhere else -/
example : render 0 (.bin .mul (.bin .add (.ident ['a']) (.const 2)) (.un .minus (.bin .shl (.ident ['b']) (.const 1)))) =
    "(a+2)*-(b<<1)".toList := by decide +kernel
example : render 0 (.bin .sub (.bin .sub (.ident ['a']) (.ident ['b'])) (.bin .sub (.ident ['c']) (.ident ['d']))) =
    "a-b-(c-d)".toList := by decide +kernel
example : render 0 (.bin .lor (.bin .land (.ident ['a']) (.bin .bor (.ident ['b']) (.ident ['c'])))
    (.bin .lt (.bin .shl (.ident ['d']) (.const 1)) (.ident ['e']))) = "a&&b|c||d<<1<e".toList := by decide +kernel
example : Wf (.bin .mul (.bin .add (.ident ['a']) (.const 2)) (.un .minus (.bin .shl (.ident ['b']) (.const 1)))) :=
  .bin _ _ _ (.bin _ _ _ (.ident _ (isName_cons (by decide))) (.const 2 2 rfl (by decide)))
    (.un _ _ (.bin _ _ _ (.ident _ (isName_cons (by decide))) (.const 1 1 rfl (by decide))))

end Avra.Props.C05pp
