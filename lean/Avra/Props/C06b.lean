/-
  C06 inside the passes: a data directive as pass 2 emits it (`data_item`: exactly the bytes the
  independent table prescribes for the line, appended behind everything emitted before, the
  address advanced by what was emitted; a line the table rejects ends the build naming the line),
  the single pad byte of an odd `.db` line in flash as pass 1 books it (`db_item_padded`) and the
  zero bytes of `.byte n` (`reserve_item`).
-/
import Avra.Props.C06
namespace Avra.Props.C06b
open Avra.Model Avra.Spec Avra.Props.C06 Avra.Props.C03b

/-- a data directive inside pass 2 -/
theorem data_item (t : SegT) (ln : Nat) (dt : DataDefine) (ops : List Operand) (rest : List (Nat × Item))
    (cur : Nat) (acc : List Nat) (ctx : Ctx) :
    pass2Items t ((ln, .data dt ops) :: rest) cur acc ctx =
      match lineBytes dt (ops.map (denote (atPc ctx cur))) with
      | some bytes =>
        pass2Items t rest (cur + (if t = SegT.code then bytes.length / 2 else bytes.length)) (acc ++ bytes) (atPc ctx cur)
      | none => .error ⟨some ln, "data"⟩ := by
  rw [pass2Items_cons, ← line_spec]
  simp only [pass2Step]
  cases h : dataBytes (atPc ctx cur) dt ops with
  | ok bs => rfl
  | err => rfl
  | oof => exact absurd h (dataBytes_ne_oof _ _ _)

/-- `.byte n` inside pass 2 (EEPROM): n zero bytes, the address advanced by n -/
theorem reserve_item (t : SegT) (ln : Nat) (n : Int) (rest : List (Nat × Item))
    (cur : Nat) (acc : List Nat) (ctx : Ctx) :
    pass2Items t ((ln, .reserveData n) :: rest) cur acc ctx =
      pass2Items t rest (cur + n.toNat) (acc ++ List.replicate n.toNat 0) (atPc ctx cur) :=
  rfl

/-- a `.db` line in FLASH as pass 1 books it: an odd number of bytes gets exactly one zero byte
    (as a further operand, so that pass 2 emits it), an even number none; the address advances by
    the padded length in words -/
theorem db_item_padded (limit : Nat) (ln : Nat) (ops : List Operand) (rest : List (Nat × Item))
    (cur : Nat) (ctx : Ctx) (hlim : ¬ cur > limit) :
    pass1Items .code limit ((ln, .data .db ops) :: rest) cur ctx =
      let ops' := if actualLen ops % 2 = 1 then ops ++ [.e (.const 0)] else ops
      consItem (ln, .data .db ops') (pass1Items .code limit rest (cur + actualLen ops' / 2) ctx) := by
  simp [pass1Items_cons, pass1Step, hlim, consItem_eq]

/-- … and in EEPROM: no padding, the address advances by the number of bytes -/
theorem db_item_eeprom (limit : Nat) (ln : Nat) (ops : List Operand) (rest : List (Nat × Item))
    (cur : Nat) (ctx : Ctx) (hlim : ¬ cur > limit) :
    pass1Items .eeprom limit ((ln, .data .db ops) :: rest) cur ctx =
      consItem (ln, .data .db ops) (pass1Items .eeprom limit rest (cur + actualLen ops) ctx) := by
  simp [pass1Items_cons, pass1Step, hlim, consItem_eq]

/-- a data directive in the data segment is an error naming the line -/
theorem data_in_dseg (limit : Nat) (ln : Nat) (dt : DataDefine) (ops : List Operand) (rest : List (Nat × Item))
    (cur : Nat) (ctx : Ctx) (hlim : ¬ cur > limit) :
    ∃ k, pass1Items .data limit ((ln, .data dt ops) :: rest) cur ctx = .error ⟨some ln, k⟩ := by
  cases dt <;> simp [pass1Items_cons, pass1Step, hlim, lineErr]

end Avra.Props.C06b
