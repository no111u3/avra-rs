/-
  C18 — the command-line tool writes what the library built, or fails visibly.

  Model: Avra.Model.Cli (src/app/main.rs): `run fs stdInc opts` = exit status, files written (in
  order), number of failure lines printed.  The file system is the parameter `Fs`; a file can be
  created when its parent directory exists and the path is not a directory (`canCreate`).
-/
import Avra.Model.Cli
import Avra.Props.C07
import Avra.Props.C12
import Avra.Lemmas.Bytes
import Avra.Props.C16
namespace Avra.Props.C18
open Avra.Model Avra.Model.Cli

theorem writeOne_nil (fs : Fs) (path : Str) : writeOne fs path [] = ([], 0) := rfl

theorem writeOne_cons (fs : Fs) (path : Str) {img : List Nat} (h : img ≠ []) :
    writeOne fs path img = if canCreate fs path then ([(path, Hex.fileText img)], 0) else ([], 1) := by
  cases img with
  | nil => exact absurd rfl h
  | cons _ _ => rfl

/-- **A failing build** creates or alters NO file, prints one failure line and exits with status 1
    — whatever the options and whatever files exist -/
theorem failed_build_writes_nothing (fs : Fs) (inc : Str) (o : Opts) (e : Err)
    (h : buildFile fs o.source [inc] = .error e) :
    run fs inc o = .ok { exit := 1, writes := [], failures := 1 } := by
  simp [run, h]

theorem writeOne_mem (fs : Fs) (path : Str) (img : List Nat) (w : Str × Str) (h : w ∈ (writeOne fs path img).1) :
    w = (path, Hex.fileText img) ∧ img ≠ [] := by
  by_cases hi : img = []
  · subst hi; exact absurd h List.not_mem_nil
  · rw [writeOne_cons fs path hi] at h
    split at h
    · exact ⟨List.mem_singleton.mp h, hi⟩
    · exact absurd h List.not_mem_nil

/-- **A successful build**: every file written is the flash file holding exactly
    `write_code_hex`'s text of the library's code image, or the EEPROM file holding the text of the
    library's EEPROM image; an image that is empty is not written -/
theorem writes_are_library_images (fs : Fs) (inc : Str) (o : Opts) (b : BuildResult) (r : Res)
    (hb : buildFile fs o.source [inc] = .ok b) (hr : run fs inc o = .ok r) :
    ∀ w ∈ r.writes, (w = (flashPath o, Hex.fileText b.code) ∧ b.code ≠ []) ∨
                    (w = (eepromPath o, Hex.fileText b.eeprom) ∧ b.eeprom ≠ []) := by
  simp only [run, hb] at hr
  cases hr
  intro w hw
  exact (List.mem_append.mp hw).imp (writeOne_mem _ _ _ _) (writeOne_mem _ _ _ _)

/-- … and such a file decodes, under the independent Intel HEX reader, to exactly the image
    (C07.hex_roundtrip; the side conditions — bytes are bytes, image below 4 GiB — hold for every
    image a build returns: the capacity checks of C12 bound it by the device's memory) -/
theorem written_file_decodes (img : List Nat) (hb : bytesOk img) (hl : img.length ≤ 2 ^ 32) :
    Spec.Hex.readCells (Hex.fileText img) = some (Spec.Hex.imageCells img) :=
  C07.hex_roundtrip img hb hl

theorem buildFile_ok (fs : Fs) (path : Str) (incs : List Str) (b : BuildResult) (h : buildFile fs path incs = .ok b) :
    ∃ st, buildFromParsed fs st = .ok b := by
  rw [buildFile_bind] at h
  obtain ⟨st, -, h⟩ := Out.bind_eq_ok h
  exact ⟨st, h⟩

/-- the side conditions discharged: every image `build_file` returns consists of bytes
    (Lemmas.Bytes.build_bytes_ok) and fits the selected device (C12.build_fits), so — for every
    device whose memories are below 4 GiB, which `device_memories_small` shows for the whole device
    table and the default device — BOTH files the tool writes decode to exactly the library's
    images -/
theorem built_files_decode (fs : Fs) (path : Str) (incs : List Str) (b : BuildResult)
    (h : buildFile fs path incs = .ok b) (hd : 2 * b.flashSize ≤ 2 ^ 32 ∧ b.eepromSize ≤ 2 ^ 32) :
    Spec.Hex.readCells (Hex.fileText b.code) = some (Spec.Hex.imageCells b.code) ∧
    Spec.Hex.readCells (Hex.fileText b.eeprom) = some (Spec.Hex.imageCells b.eeprom) := by
  obtain ⟨st, h⟩ := buildFile_ok fs path incs b h
  have hb := Lemmas.Bytes.build_bytes_ok fs st b h
  have hf := C12.build_fits fs st b h
  exact ⟨C07.hex_roundtrip _ hb.1 (by omega), C07.hex_roundtrip _ hb.2 (by omega)⟩

theorem device_memories_small :
    (∀ p ∈ Gen.devices, 2 * p.2.flash ≤ 2 ^ 32 ∧ p.2.eeprom ≤ 2 ^ 32) ∧
    2 * defaultDevice.flash ≤ 2 ^ 32 ∧ defaultDevice.eeprom ≤ 2 ^ 32 := by decide +kernel

/-- when both images are non-empty and both locations can be written, both files are written,
    flash first -/
theorem both_written (fs : Fs) (inc : Str) (o : Opts) (b : BuildResult)
    (hb : buildFile fs o.source [inc] = .ok b) (hc : b.code ≠ []) (he : b.eeprom ≠ [])
    (h1 : canCreate fs (flashPath o) = true) (h2 : canCreate fs (eepromPath o) = true) :
    run fs inc o = .ok { exit := 0, writes := [(flashPath o, Hex.fileText b.code), (eepromPath o, Hex.fileText b.eeprom)], failures := 0 } := by
  simp only [run, hb, writeOne_cons fs _ hc, writeOne_cons fs _ he, if_pos h1, if_pos h2]
  rfl

theorem writeOne_fail (fs : Fs) (path : Str) (img : List Nat) :
    ((writeOne fs path img).2 > 0 ↔ (img ≠ [] ∧ canCreate fs path = false)) ∧ (writeOne fs path img).2 ≤ 1 := by
  by_cases hi : img = []
  · subst hi; simp [writeOne_nil]
  · rw [writeOne_cons fs path hi]
    cases canCreate fs path <;> simp [hi]

/-- **Exit status.**  It is non-zero exactly when a failure line was printed, and that happens
    exactly when the build failed or a non-empty image could not be written -/
theorem exit_status (fs : Fs) (inc : Str) (o : Opts) (r : Res) (hr : run fs inc o = .ok r) :
    (r.exit ≠ 0 ↔ r.failures > 0) ∧
    (r.failures > 0 ↔
      (∃ e, buildFile fs o.source [inc] = .error e) ∨
      (∃ b, buildFile fs o.source [inc] = .ok b ∧
        ((b.code ≠ [] ∧ canCreate fs (flashPath o) = false) ∨ (b.eeprom ≠ [] ∧ canCreate fs (eepromPath o) = false)))) := by
  unfold run at hr
  split at hr
  · rename_i b hb
    cases hr
    have f1 := writeOne_fail fs (flashPath o) b.code
    have f2 := writeOne_fail fs (eepromPath o) b.eeprom
    constructor
    · simp only
      split <;> omega
    · simp only [hb, Out.ok.injEq, exists_eq_left', reduceCtorEq, exists_false, false_or]
      rw [← f1.1, ← f2.1]
      omega
  · rename_i e hb
    cases hr
    simp [hb]
  all_goals cases hr

/-- **the tool always ends with an exit status**: whatever the source, the options and the file
    system, `main` neither panics nor fails to answer (C16.build_file_always_answers underneath) -/
theorem run_always_answers (fs : Fs) (inc : Str) (o : Opts) : ∃ r, run fs inc o = .ok r := by
  unfold run
  rcases Avra.Props.C16.build_file_always_answers fs [] o.source [inc] with ⟨b, hb⟩ | ⟨e, he⟩
  · rw [hb]; exact ⟨_, rfl⟩
  · rw [he]; exact ⟨_, rfl⟩

/-! the default paths (examples of `Path::parent` / `file_stem` as modelled) -/

/-- a source name in a directory whose name has a dot, no extension: the stem is the whole name -/
example : defaultOut ['f', '.', 'v', '/', 'b'] ['.', 'h'] = ['f', '.', 'v', '/', 'b', '.', 'h'] := by decide +kernel

example : flashPath { source := ['d', '/', 'p', '.', 'a'] } = ['d', '/', 'p', '.', 'h', 'e', 'x'] := by decide +kernel
example : eepromPath { source := ['p', '.', 'a'] } = ['p', '.', 'e', 'e', 'p', '.', 'h', 'e', 'x'] := by decide +kernel
example : flashPath { source := ['p'], output := some ['o'] } = ['o'] := by decide +kernel
example : defaultOut ['d', '/', 'p', '.', 'a'] ['.', 'h'] = ['d', '/', 'p', '.', 'h'] := by decide +kernel
example : defaultOut ['p', '.', 'a'] ['.', 'h'] = ['p', '.', 'h'] := by decide +kernel
example : defaultOut ['a', '.', 'b', '.', 'c'] ['.', 'h'] = ['a', '.', 'b', '.', 'h'] := by decide +kernel
example : defaultOut ['n'] ['.', 'h'] = ['n', '.', 'h'] := by decide +kernel
example : defaultOut ['.', 'x'] ['.', 'h'] = ['.', 'x', '.', 'h'] := by decide +kernel

end Avra.Props.C18
