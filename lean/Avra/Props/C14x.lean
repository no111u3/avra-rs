/-
  C14 (whole lines, continued) — operands that are expressions written in any of the ways of
  `C05pp.Spaced` (any blanks between the tokens, any further parentheses), index forms, strings,
  assignments and `#pragma` lists; then the property in its own words: two writings of a line that
  differ in layout, letter case, radix or the writing of an expression parse alike.

  In a file of its own because it rests on `C05pp.parse_print_spaced` (C05pp rests on C09w, C09w on C14).
-/
import Avra.Props.C05pp
namespace Avra.Props.C14
open Avra.Model Avra.Peg Avra.Lemmas.Fuel Avra.Props.C09 Avra.Props.C05pp Avra.Chars

/-! ### expressions as operands of instructions -/

/-- a text that does not look like a register or an index operand at its start -/
def NotRegLike (s : Str) : Prop :=
  ∃ y ys, s = y :: ys ∧ ¬ regLetter y ∧ (y = '-' → ∃ z zs, ys = z :: zs ∧ ¬ regLetter z)

/-- an expression, written in any of the ways of `Spaced` -/
def Opd.ofExpr (e : Expr) (s : Str) : Opd := ⟨s, .e e⟩

theorem afterOpd_ends {rest : Str} (h : AfterOpd rest) : AtomEndB rest ∧ EndAt 0 rest :=
  ⟨⟨h.1.2.1, h.2.1⟩, fun x hx => Or.inr (h.1.2.2 x hx)⟩

theorem expr_spaced_after {k : Nat} {e : Expr} {s : Str} (hsp : Spaced 0 k e s) {rest : Str} (hr : AfterOpd rest) :
    expr (s ++ rest) = .ok e rest :=
  parse_print_spaced k e s hsp rest (afterOpd_ends hr).1 (afterOpd_ends hr).2

theorem Opd.ofExpr_ok (k : Nat) (e : Expr) (s : Str) (hsp : Spaced 0 k e s) (hnr : NotRegLike s) : (Opd.ofExpr e s).ok := by
  refine ⟨fun rest hr => ?_, skip_spaced 0 k e s hsp⟩
  obtain ⟨y, ys, rfl, hy, hminus⟩ := hnr
  show instructionOps (y :: (ys ++ rest)) = _
  refine instructionOps_expr (indexOps_fails (reg16_none y _ hy) ?_) (reg8_none y _ hy) (expr_spaced_after hsp hr)
  intro r hr
  simp only [List.cons.injEq] at hr
  obtain ⟨z, zs, rfl, hz⟩ := hminus hr.1
  rw [← hr.2]; exact reg16_none z _ hz

/-- `low ( K ) + 1` -/
theorem spaced_lowK : Spaced 0 (opLevel .add + 1) (.bin .add (.func (.ident ['l', 'o', 'w']) (.ident ['K'])) (.const 1))
    (['l', 'o', 'w'] ++ ([' '] ++ '(' :: ([' '] ++ (['K'] ++ ([' '] ++ [')'])))) ++ ([' '] ++ (BinOp.add.text ++ ([' '] ++ ['1'])))) :=
  .bin 0 top top .add _ _ [' '] [' '] _ _ (by decide) blanks_sp blanks_sp
    (.func _ top _ _ [' '] [' '] [' '] _ (isName_cons (by decide)) blanks_sp blanks_sp blanks_sp
      (.ident 0 ['K'] (isName_cons (by decide))))
    (Spaced.const _ 1 1 rfl (by decide))

/-! non-vacuity: ` ldi r16 , low ( K ) + 1 // c` -/
example : ∃ toks, line " ldi r16 , low ( K ) + 1 // c".toList = .ok (.codeLine none (opOfWord (lower ['l', 'd', 'i'])) toks) := by
  simp only [String.reduceToList]
  have := operands_instruction_line [' '] ['l', 'd', 'i'] [' '] (Opd.ofItem (.reg false 16))
    [([' '], [' '], Opd.ofExpr _ _)] [' '] ['/', '/', ' ', 'c']
    blanks_sp (isName_cons (by decide)) blanks_sp (by decide) (Opd.ofItem_ok _ (by unfold Item.good; decide))
    (List.forall_mem_singleton.2 ⟨blanks_sp, blanks_sp, Opd.ofExpr_ok _ _ _ spaced_lowK
      ⟨'l', _, rfl, by unfold regLetter; decide, fun h => absurd h (by decide)⟩⟩)
    blanks_sp (Or.inr ⟨Or.inr rfl, rfl⟩)
  exact ⟨_, this⟩

/-! ### whole lines: a directive with a list of expressions -/

theorem noAssign_op (w : Str) (hw : blanks w) (op : BinOp) (rest : Str) : NoAssign (skipSpace (w ++ (op.text ++ rest))) := by
  rw [space_absorbs w _ hw, skip_op]
  -- `==` begins with `=` and is followed by a second `=`; no other operator begins with `=`
  cases op <;> first
    | exact Or.inr (Or.inr ⟨_, rfl⟩)
    | exact Or.inr (Or.inl ⟨_, _, rfl, by decide⟩)

theorem spaced_lead (m k : Nat) (e : Expr) (s : Str) (h : Spaced m k e s) :
    ∀ rest, (∀ y, rest.head? = some y → isIdentChar y = false) → NoAssign (skipSpace rest) → LeadOk (s ++ rest) := by
  induction h with
  | ident m s hs => exact fun rest hr hn => Or.inr ⟨s, rest, rfl, hs, hr, hn⟩
  | num m v n t hv hnt => exact fun rest _ _ => leadOk_numText hnt rest
  | chr m c hc => exact fun rest _ _ => Or.inl ⟨'\'', _, rfl, by decide⟩
  | un m k u e w s _ _ _ => exact fun rest _ _ => by cases u <;> exact Or.inl ⟨_, _, rfl, by decide⟩
  | paren m k e w0 w1 s _ _ _ _ => exact fun rest _ _ => Or.inl ⟨'(', _, rfl, by decide⟩
  | func m k name a w0 w1 w2 s hn hw0 _ _ _ _ =>
    intro rest _ _
    refine Or.inr ⟨name, w0 ++ '(' :: (w1 ++ (s ++ (w2 ++ [')']))) ++ rest, by simp, hn, ?_, ?_⟩
    · simp only [List.append_assoc, List.cons_append]
      exact endsToken_blanks w0 _ hw0 fun y hy => by simp at hy; subst hy; decide
    · simp only [List.append_assoc, List.cons_append]
      rw [skip_blanks_to w0 _ hw0 (skipSpace_cons (by decide) _)]
      exact Or.inr (Or.inl ⟨_, _, rfl, by decide⟩)
  | bin m kl kr op l r w1 w2 sl sr _ hw1 _ _ _ ihl _ =>
    intro rest _ _
    have := ihl (w1 ++ (op.text ++ ((w2 ++ sr) ++ rest))) (atomEndB_op w1 hw1 op _).1 (noAssign_op w1 hw1 op _)
    simpa using this

theorem noAssign_comma (w rest : Str) (hw : blanks w) : NoAssign (skipSpace (w ++ ',' :: rest)) := by
  rw [space_absorbs w _ hw, skip_comma]; exact Or.inr (Or.inl ⟨_, _, rfl, by decide⟩)

theorem noAssign_end (ws2 c : Str) (hws2 : blanks ws2) (hc : lineEnd c) : NoAssign (skipSpace (ws2 ++ c)) := by
  rw [skip_tail ws2 c hws2 hc]
  rcases lineEnd_cases hc with rfl | ⟨x, xs, rfl, hx⟩
  · exact Or.inl rfl
  · exact Or.inr (Or.inl ⟨x, xs, rfl, by rcases hx with rfl | rfl <;> decide⟩)

theorem commaTail_noAssign {β : Type} (a b t : β → Str) (more : List β) (hm : ∀ x ∈ more, blanks (a x)) (ws2 c : Str)
    (hws2 : blanks ws2) (hc : lineEnd c) : NoAssign (skipSpace (commaTail a b t more ++ (ws2 ++ c))) := by
  cases more with
  | nil => exact noAssign_end ws2 c hws2 hc
  | cons x xs => simpa [commaTail] using noAssign_comma (a x) (b x ++ (t x ++ commaTail a b t xs) ++ (ws2 ++ c)) (hm x (by simp))

/-- an expression, written in any of the ways of `Spaced` -/
def Dpd.ofExpr (e : Expr) (s : Str) : Dpd := ⟨s, .e e⟩

theorem Dpd.ofExpr_ok (k : Nat) (e : Expr) (s : Str) (hsp : Spaced 0 k e s) : (Dpd.ofExpr e s).ok :=
  ⟨fun rest hr => by simp only [Dpd.ofExpr, directiveOp, expr_spaced_after hsp hr], skip_spaced 0 k e s hsp⟩

theorem leadOk_expr (k : Nat) (e : Expr) (s : Str) (hsp : Spaced 0 k e s) (more : List (Str × Str × Dpd)) (hm : dpdsOk more)
    (ws2 c : Str) (hws2 : blanks ws2) (hc : lineEnd c) : LeadOk ((Dpd.ofExpr e s).text ++ (dpdTail more ++ (ws2 ++ c))) :=
  spaced_lead 0 k e s hsp _ (by rw [dpdTail_eq]; exact (commaTail_after _ _ _ more (fun x hx => (hm x hx).1) ws2 c hws2 hc).1.2.1)
    (by rw [dpdTail_eq]; exact commaTail_noAssign _ _ _ more (fun x hx => (hm x hx).1) ws2 c hws2 hc)

/-- **A directive followed by a list of expressions** (`.db low(K)+1 , 1<<3 ; table`, `.dw lab, lab + 2`,
    `.org base+0x10`, `.if A >= B`): indented or not, any directive name, each expression written in
    any of the ways of `C05pp.Spaced` (any blanks between its tokens, any further parentheses), any
    blanks around every comma, any blanks and any comment (or nothing) at the end — is that
    directive with exactly those expressions as its operand list -/
theorem expression_directive_line (ws1 name wsA : Str) (k : Nat) (e : Expr) (s : Str) (more : List (Str × Str × Dpd)) (ws2 c : Str)
    (hws1 : blanks ws1) (hname : name ≠ []) (hlow : ∀ ch ∈ name, isLowerAlpha ch = true)
    (hwsA : blanks wsA) (hA : wsA ≠ []) (hsp : Spaced 0 k e s) (hm : dpdsOk more)
    (hws2 : blanks ws2) (hc : lineEnd c) :
    line (ws1 ++ ('.' :: (name ++ (wsA ++ (s ++ (dpdTail more ++ (ws2 ++ c))))))) =
      .ok (.directiveLine none (directiveOfName name) (.opList (.e e :: more.map (fun x => x.2.2.val)))) :=
  operands_directive_line none [] ws1 name wsA (Dpd.ofExpr e s) more ws2 c (Or.inl ⟨rfl, rfl⟩) hws1 hname hlow hwsA hA
    (Dpd.ofExpr_ok k e s hsp) hm (leadOk_expr k e s hsp more hm ws2 c hws2 hc) hws2 hc

theorem directiveOps_assign (sym wsB wsC : Str) (k : Nat) (e : Expr) (s : Str) (ws2 c : Str)
    (hsym : isName sym) (hwsB : blanks wsB) (hwsC : blanks wsC) (hsp : Spaced 0 k e s) (hws2 : blanks ws2) (hc : lineEnd c) :
    directiveOps (sym ++ (wsB ++ '=' :: (wsC ++ (s ++ (ws2 ++ c))))) = .ok (.assign (.ident sym) e) (ws2 ++ c) := by
  have he : expr (s ++ (ws2 ++ c)) = .ok e (ws2 ++ c) := expr_spaced_after hsp (afterOpd_end ws2 c hws2 hc)
  have hid : identText (sym ++ (wsB ++ '=' :: (wsC ++ (s ++ (ws2 ++ c))))) = some (sym, wsB ++ '=' :: (wsC ++ (s ++ (ws2 ++ c)))) :=
    identText_name sym _ hsym (endsToken_blanks wsB _ hwsB fun y hy => by simp at hy; subst hy; decide)
  have hsk1 : skipSpace (wsB ++ '=' :: (wsC ++ (s ++ (ws2 ++ c)))) = '=' :: (wsC ++ (s ++ (ws2 ++ c))) :=
    skip_blanks_to wsB _ hwsB (skipSpace_cons (by decide) _)
  have hsk2 : skipSpace (wsC ++ (s ++ (ws2 ++ c))) = s ++ (ws2 ++ c) := skip_blanks_to wsC _ hwsC (skip_spaced 0 k e s hsp _)
  simp only [directiveOps, hid, hsk1, hsk2, he]

/-- **An assignment directive, in full**: `.` or `#`, behind a label or not -/
theorem assignment_line (lab : Option Str) (labText ws1 : Str) (p : Char) (dname wsA sym wsB wsC : Str) (k : Nat) (e : Expr)
    (s ws2 c : Str) (hp : p = '.' ∨ p = '#')
    (hlabel : (lab = none ∧ labText = []) ∨ ∃ l, isName l ∧ lab = some (lower l) ∧ labText = l ++ [':'])
    (hws1 : blanks ws1) (hname : dname ≠ []) (hlow : ∀ ch ∈ dname, isLowerAlpha ch = true)
    (hwsA : blanks wsA) (hA : wsA ≠ []) (hsym : isName sym) (hwsB : blanks wsB) (hwsC : blanks wsC)
    (hsp : Spaced 0 k e s) (hws2 : blanks ws2) (hc : lineEnd c) :
    line (labText ++ (ws1 ++ (p :: (dname ++ (wsA ++ (sym ++ (wsB ++ '=' :: (wsC ++ (s ++ (ws2 ++ c)))))))))) =
      .ok (.directiveLine lab (directiveOfName dname) (.assign (.ident sym) e)) :=
  directive_line_of_ops lab labText ws1 p dname wsA _ _ ws2 c hp hlabel hws1 hname hlow hwsA hA
    (directiveOps_assign sym wsB wsC k e s ws2 c hsym hwsB hwsC hsp hws2 hc) (skip_name sym _ hsym) hws2 hc

/-- **An assignment directive** (`.equ NAME = expression`, `.set`, `.def` with a register written as
    an expression is not meant here): indented or not, any blanks around the `=`, the expression
    written in any of the ways of `C05pp.Spaced`, any blanks and any comment at the end -/
theorem assignment_directive_line (ws1 dname wsA sym wsB wsC : Str) (k : Nat) (e : Expr) (s : Str) (ws2 c : Str)
    (hws1 : blanks ws1) (hname : dname ≠ []) (hlow : ∀ ch ∈ dname, isLowerAlpha ch = true)
    (hwsA : blanks wsA) (hA : wsA ≠ []) (hsym : isName sym) (hwsB : blanks wsB) (hwsC : blanks wsC)
    (hsp : Spaced 0 k e s) (hws2 : blanks ws2) (hc : lineEnd c) :
    line (ws1 ++ ('.' :: (dname ++ (wsA ++ (sym ++ (wsB ++ '=' :: (wsC ++ (s ++ (ws2 ++ c))))))))) =
      .ok (.directiveLine none (directiveOfName dname) (.assign (.ident sym) e)) :=
  assignment_line none [] ws1 '.' dname wsA sym wsB wsC k e s ws2 c (Or.inl rfl) (Or.inl ⟨rfl, rfl⟩) hws1 hname hlow hwsA hA
    hsym hwsB hwsC hsp hws2 hc

/-! non-vacuity: `.db low ( K ) + 1 ,2 ; t` -/
example : ∃ ops, line ".db low ( K ) + 1 ,2 ; t".toList = .ok (.directiveLine none (directiveOfName ['d', 'b']) ops) := by
  simp only [String.reduceToList]
  have := expression_directive_line [] ['d', 'b'] [' '] _ _ _
    [([' '], [], Dpd.ofExpr (.const 2) ['2'])] [' '] [';', ' ', 't']
    blanks_nil (by decide) (by decide) blanks_sp (by decide) spaced_lowK
    (List.forall_mem_singleton.2 ⟨blanks_sp, blanks_nil, Dpd.ofExpr_ok _ _ _ (Spaced.const 0 2 2 rfl (by decide))⟩)
    blanks_sp (Or.inr ⟨Or.inl rfl, rfl⟩)
  exact ⟨_, this⟩

/-! ### index operands: `X`, `X+`, `-X`, `Y+q` -/

/-- a pointer register in either letter case -/
def r16Text (up : Bool) : Reg16 → Str
  | .x => [if up then 'X' else 'x']
  | .y => [if up then 'Y' else 'y']
  | .z => [if up then 'Z' else 'z']

theorem reg16_r16Text (up : Bool) (r : Reg16) (rest : Str) : reg16 (r16Text up r ++ rest) = some (r, rest) := by
  cases r <;> cases up <;> simp +decide [r16Text, reg16]

theorem skip_r16 (up : Bool) (r : Reg16) (rest : Str) : skipSpace (r16Text up r ++ rest) = r16Text up r ++ rest := by
  cases r <;> cases up <;> simp +decide [r16Text, skipSpace]

theorem afterOpd_noPlus (rest : Str) (h : AfterOpd rest) : ∀ r2, skipSpace rest ≠ '+' :: r2 := by
  intro r2 hr
  rcases h.2.2 with h0 | ⟨x, xs, hx, hns⟩
  · rw [h0] at hr; simp at hr
  · rw [hx] at hr
    simp only [List.cons.injEq] at hr
    rw [hr.1] at hns
    rcases hns with h | h | h | h | h | h | h | h | h | h <;> exact absurd h (by decide)

theorem afterOpd_head (rest : Str) (h : AfterOpd rest) : ∀ y ys, rest = y :: ys → isIdentChar y = false ∧ y ≠ '+' := by
  intro y ys hr
  subst hr
  refine ⟨h.1.2.1 y rfl, ?_⟩
  intro hy; subst hy
  have := afterOpd_noPlus _ h ys
  simp +decide [skipSpace] at this

theorem expr_fails_after (rest : Str) (h : AfterOpd rest) : expr (skipSpace rest) = .fail := by
  rcases h.2.2 with h0 | ⟨x, xs, hx, hns⟩
  · rw [h0]; exact expr_fails_nil
  · rw [hx]; exact expr_fails' x xs hns

theorem indexOps_plain (up : Bool) (r : Reg16) (rest : Str) (h : AfterOpd rest) :
    indexOps (r16Text up r ++ rest) = .ok (.none r) rest := by
  have hnp := afterOpd_noPlus _ h
  have key : ∀ (c : Char) (r0 : Reg16), c ≠ '-' → reg16 (c :: rest) = some (r0, rest) →
      indexOps (c :: rest) = .ok (.none r0) rest := by
    intro c r0 hc hr
    unfold indexOps
    simp only [hr]
    split
    · rename_i v r' heq
      split at heq
      · rename_i t ht; simp only [List.cons.injEq] at ht; exact absurd ht.1 hc
      · simp at heq
    · split
      · rename_i r2 _
        exact absurd (by simp +decide [skipSpace]) (hnp r2)
      · rename_i c' t _ _
        have hy1 := (afterOpd_head _ h c' t rfl).1
        simp [hy1]
      · rfl
  have hr := reg16_r16Text up r rest
  cases r <;> cases up <;> exact key _ _ (by decide) hr

theorem indexOps_postInc (up : Bool) (r : Reg16) (rest : Str) (h : AfterOpd rest) :
    indexOps (r16Text up r ++ ('+' :: rest)) = .ok (.postInc r) rest := by
  have hf := expr_fails_after rest h
  cases r <;> cases up <;> simp +decide [indexOps, r16Text, reg16, skipSpace, hf]

theorem indexOps_preDec (up : Bool) (r : Reg16) (rest : Str) :
    indexOps ('-' :: (r16Text up r ++ rest)) = .ok (.preDec r) rest := by
  cases r <;> cases up <;> simp +decide [indexOps, r16Text, reg16]

/-- `Y+q`, `Z + q`: a displacement written in any of the ways of `Spaced`, blanks around the `+` -/
theorem indexOps_disp (up : Bool) (r : Reg16) (w1 w2 : Str) (k : Nat) (e : Expr) (s : Str) (rest : Str)
    (hw1 : blanks w1) (hw2 : blanks w2) (hsp : Spaced 0 k e s) (h : AfterOpd rest) :
    indexOps (r16Text up r ++ (w1 ++ '+' :: (w2 ++ (s ++ rest)))) = .ok (.postIncE r e) rest := by
  have hsk1 : skipSpace (w1 ++ '+' :: (w2 ++ (s ++ rest))) = '+' :: (w2 ++ (s ++ rest)) :=
    skip_blanks_to w1 _ hw1 (skipSpace_cons (by decide) _)
  have hsk2 : skipSpace (w2 ++ (s ++ rest)) = s ++ rest := skip_blanks_to w2 _ hw2 (skip_spaced 0 k e s hsp rest)
  cases r <;> cases up <;> simp +decide [indexOps, r16Text, reg16, hsk1, hsk2, expr_spaced_after hsp h]

def Opd.plain (up : Bool) (r : Reg16) : Opd := ⟨r16Text up r, .index (.none r)⟩
def Opd.postInc (up : Bool) (r : Reg16) : Opd := ⟨r16Text up r ++ ['+'], .index (.postInc r)⟩
def Opd.preDec (up : Bool) (r : Reg16) : Opd := ⟨'-' :: r16Text up r, .index (.preDec r)⟩
def Opd.disp (up : Bool) (r : Reg16) (w1 w2 : Str) (e : Expr) (s : Str) : Opd :=
  ⟨r16Text up r ++ (w1 ++ '+' :: (w2 ++ s)), .index (.postIncE r e)⟩

theorem instructionOps_index {s : Str} {v : IndexOps} {r : Str} (h : indexOps s = .ok v r) : instructionOps s = .ok (.index v) r := by
  simp only [instructionOps, h]

theorem Opd.plain_ok (up : Bool) (r : Reg16) : (Opd.plain up r).ok :=
  ⟨fun rest hr => instructionOps_index (indexOps_plain up r rest hr), fun rest => skip_r16 up r rest⟩

theorem Opd.postInc_ok (up : Bool) (r : Reg16) : (Opd.postInc up r).ok := by
  refine ⟨fun rest hr => ?_, fun rest => by simp only [Opd.postInc, List.append_assoc]; exact skip_r16 up r _⟩
  simp only [Opd.postInc, List.append_assoc, List.cons_append, List.nil_append]
  exact instructionOps_index (indexOps_postInc up r rest hr)

theorem Opd.preDec_ok (up : Bool) (r : Reg16) : (Opd.preDec up r).ok :=
  ⟨fun rest _ => instructionOps_index (indexOps_preDec up r rest), fun rest => by simp +decide [Opd.preDec, skipSpace]⟩

theorem Opd.disp_ok (up : Bool) (r : Reg16) (w1 w2 : Str) (k : Nat) (e : Expr) (s : Str)
    (hw1 : blanks w1) (hw2 : blanks w2) (hsp : Spaced 0 k e s) : (Opd.disp up r w1 w2 e s).ok := by
  refine ⟨fun rest hr => ?_, fun rest => by simp only [Opd.disp, List.append_assoc]; exact skip_r16 up r _⟩
  simp only [Opd.disp, List.append_assoc, List.cons_append]
  exact instructionOps_index (indexOps_disp up r w1 w2 k e s rest hw1 hw2 hsp hr)

/-! non-vacuity: ` st -X , r5` and ` ldd r16, Y + 2 ; c` -/
example : ∃ toks, line " st -X , r5".toList = .ok (.codeLine none (opOfWord (lower ['s', 't'])) toks) := by
  simp only [String.reduceToList]
  have := operands_instruction_line [' '] ['s', 't'] [' '] (Opd.preDec true .x)
    [([' '], [' '], Opd.ofItem (.reg false 5))] [] []
    blanks_sp (isName_cons (by decide)) blanks_sp (by decide) (Opd.preDec_ok true .x)
    (List.forall_mem_singleton.2 ⟨blanks_sp, blanks_sp, Opd.ofItem_ok _ (by unfold Item.good; decide)⟩)
    blanks_nil (Or.inl rfl)
  exact ⟨_, this⟩

example : ∃ toks, line " ldd r16, Y + 2 ; c".toList = .ok (.codeLine none (opOfWord (lower ['l', 'd', 'd'])) toks) := by
  simp only [String.reduceToList]
  have := operands_instruction_line [' '] ['l', 'd', 'd'] [' '] (Opd.ofItem (.reg false 16))
    [([], [' '], Opd.disp true .y [' '] [' '] (.const 2) ['2'])] [' '] [';', ' ', 'c']
    blanks_sp (isName_cons (by decide)) blanks_sp (by decide) (Opd.ofItem_ok _ (by unfold Item.good; decide))
    (List.forall_mem_singleton.2 ⟨blanks_nil, blanks_sp,
      Opd.disp_ok true .y _ _ _ _ _ blanks_sp blanks_sp (Spaced.const 0 2 2 rfl (by decide))⟩)
    blanks_sp (Or.inr ⟨Or.inl rfl, rfl⟩)
  exact ⟨_, this⟩

/-! ### string operands of directives -/

/-- a string is no expression -/
theorem expr_fails_quote (xs : Str) : expr ('"' :: xs) = .fail := expr_fails_start xs (by unfold noExprStart; decide)

/-- a string operand: any characters but the quote and line ends, between quotes -/
def Dpd.ofString (body : Str) : Dpd := ⟨'"' :: (body ++ ['"']), .s body⟩

theorem Dpd.ofString_ok (body : Str) (hb : ∀ ch ∈ body, notStrEnd ch = true) : (Dpd.ofString body).ok := by
  refine ⟨fun rest hr => ?_, fun rest => by simp +decide [Dpd.ofString, skipSpace]⟩
  simp only [Dpd.ofString, List.cons_append, List.append_assoc, List.nil_append]
  have htw : takeWhileP notStrEnd (body ++ ('"' :: rest)) = (body, '"' :: rest) :=
    takeWhile_all notStrEnd body _ hb (by intro y hy; simp at hy; subst hy; decide)
  unfold directiveOp
  simp only [expr_fails_quote, Peg.string, htw]

/-- a list may begin with a string (with an expression: `leadOk_expr`) -/
theorem leadOk_string (body rest : Str) : LeadOk ((Dpd.ofString body).text ++ rest) :=
  Or.inl ⟨'"', _, rfl, by decide⟩

/-! non-vacuity: `msg:.db "Hi; there" , 0 // z` -/
example : ∃ ops, line "msg:.db \"Hi; there\" , 0 // z".toList =
    .ok (.directiveLine (some (lower ['m', 's', 'g'])) (directiveOfName ['d', 'b']) ops) := by
  simp only [String.reduceToList]
  have := operands_directive_line (some (lower ['m', 's', 'g'])) (['m', 's', 'g'] ++ [':']) [] ['d', 'b'] [' ']
    (Dpd.ofString ['H', 'i', ';', ' ', 't', 'h', 'e', 'r', 'e'])
    [([' '], [' '], Dpd.ofExpr (.const 0) ['0'])] [' '] ['/', '/', ' ', 'z']
    (Or.inr ⟨_, isName_cons (by decide), rfl, rfl⟩)
    blanks_nil (by decide) (by decide) blanks_sp (by decide) (Dpd.ofString_ok _ (by decide))
    (List.forall_mem_singleton.2 ⟨blanks_sp, blanks_sp, Dpd.ofExpr_ok _ _ _ (Spaced.const 0 0 0 rfl (by decide))⟩)
    (leadOk_string _ _) blanks_sp (Or.inr ⟨Or.inr rfl, rfl⟩)
  exact ⟨_, this⟩

/-! ### `#pragma` lists: two to six operands separated by blanks only -/

inductive PItem
  | name (s : Str)
  | num (t : Str) (n : Nat)

def PItem.good : PItem → Prop
  | .name s => isName s
  | .num t n => NumText t n

def PItem.text : PItem → Str
  | .name s => s
  | .num t _ => t

def PItem.val : PItem → Operand
  | .name s => .e (.ident s)
  | .num _ n => .e (.const (n : Int))

/-- the rest of the list: non-empty blanks, an operand, and so on -/
def pragTail : List (Str × PItem) → Str
  | [] => []
  | (w, it) :: more => w ++ (it.text ++ pragTail more)

def pragOk (more : List (Str × PItem)) : Prop := ∀ x ∈ more, blanks x.1 ∧ x.1 ≠ [] ∧ x.2.good

theorem pitem_head (it : PItem) (hg : it.good) (rest : Str) :
    ∃ y ys, it.text ++ rest = y :: ys ∧ (isIdentStart y = true ∨ isDigit y = true ∨ y = '$') := by
  cases it with
  | name s =>
    obtain ⟨x, xs, rfl, hx, _⟩ := hg
    exact ⟨x, xs ++ rest, rfl, Or.inl hx⟩
  | num t n =>
    obtain ⟨y, ys, hs, hy⟩ := numText_head t n hg rest
    refine ⟨y, ys, hs, ?_⟩
    rcases hy with h | h
    · exact Or.inr (Or.inl h)
    · exact Or.inr (Or.inr h)

theorem wordStart_facts (y : Char) (h : isIdentStart y = true ∨ isDigit y = true ∨ y = '$') :
    isSpace y = false ∧ y ≠ '(' ∧ y ≠ '=' := by
  char_arith

theorem lit_word_none (x : Ent) (hx : x ∈ infixOps) (y : Char) (ys : Str)
    (hy : isIdentStart y = true ∨ isDigit y = true ∨ y = '$') : lit x.1 (y :: ys) = none :=
  infix_none_of ys (by simp only [opChars, List.mem_cons, List.not_mem_nil, or_false]; char_arith) x hx

theorem skip_pitem (it : PItem) (hg : it.good) (rest : Str) : skipSpace (it.text ++ rest) = it.text ++ rest := by
  obtain ⟨y, ys, hy, hyc⟩ := pitem_head it hg rest
  rw [hy]; exact skipSpace_cons (wordStart_facts y hyc).1 _

theorem prag_gap (x : Str × PItem) (xs : List (Str × PItem)) (hm : pragOk (x :: xs)) (E : Str) :
    (∀ z, (pragTail (x :: xs) ++ E).head? = some z → isSpace z = true) ∧
    neSpace (pragTail (x :: xs) ++ E) = some (x.2.text ++ (pragTail xs ++ E)) ∧
    ∃ y ys, skipSpace (pragTail (x :: xs) ++ E) = y :: ys ∧ (isIdentStart y = true ∨ isDigit y = true ∨ y = '$') := by
  obtain ⟨w, it⟩ := x
  obtain ⟨hw, hwne, hg⟩ := hm _ (List.mem_cons_self ..)
  have hsk := skip_pitem it hg (pragTail xs ++ E)
  obtain ⟨h1, h2⟩ := gap hw hwne hsk
  obtain ⟨y, ys, hy, hyc⟩ := pitem_head it hg (pragTail xs ++ E)
  have hform : pragTail ((w, it) :: xs) ++ E = w ++ (it.text ++ (pragTail xs ++ E)) := by simp [pragTail]
  rw [hform]
  exact ⟨h1, neSpace_gap hw hwne hsk, y, ys, by rw [h2, hy], hyc⟩

theorem prag_after (more : List (Str × PItem)) (hm : pragOk more) (ws2 c : Str) (hws2 : blanks ws2) (hc : lineEnd c) :
    AtomEndB (pragTail more ++ (ws2 ++ c)) ∧ EndAt 0 (pragTail more ++ (ws2 ++ c)) := by
  cases more with
  | nil => exact afterOpd_ends (afterOpd_end ws2 c hws2 hc)
  | cons x xs =>
    obtain ⟨hsp, _, y, ys, hsk, hy⟩ := prag_gap x xs hm (ws2 ++ c)
    refine ⟨⟨fun z hz => (space_facts (hsp z hz)).2.1, fun r2 hr => ?_⟩, fun e he => Or.inr (Or.inl ?_)⟩
    · rw [hsk] at hr; exact (wordStart_facts y hy).2.1 (List.cons.inj hr).1
    · rw [hsk]; exact lit_word_none e he y ys hy

theorem directiveOp_pitem (it : PItem) (hg : it.good) (rest : Str) (hr : AtomEndB rest) (he : EndAt 0 rest) :
    directiveOp (it.text ++ rest) = .ok it.val rest := by
  cases it with
  | name s => simp only [PItem.text, PItem.val, directiveOp, parse_print_spaced top _ s (.ident 0 s hg) rest hr he]
  | num t n => simp only [PItem.text, PItem.val, directiveOp, parse_print_spaced top _ t (.num 0 _ n t rfl hg) rest hr he]

theorem spacedOps_prag : ∀ (more : List (Str × PItem)) (first : PItem), first.good → pragOk more →
    ∀ (ws2 c : Str), blanks ws2 → lineEnd c → ∀ k, more.length ≤ k →
      spacedOps (k + 1) (first.text ++ (pragTail more ++ (ws2 ++ c))) =
        if k = more.length then .ok (first.val :: more.map (fun x => x.2.val)) (ws2 ++ c) else .fail := by
  intro more
  induction more with
  | nil =>
    intro first hg _ ws2 c hws2 hc k _
    have hrd : ReadsAs directiveOp first.text first.val :=
      ⟨fun rest hr => directiveOp_pitem first hg rest (afterOpd_ends hr).1 (afterOpd_ends hr).2, skip_pitem first hg⟩
    cases k with
    | zero => simp [pragTail, spacedOps, hrd.1 _ (afterOpd_end ws2 c hws2 hc)]
    | succ k => simpa [pragTail] using spacedOps_fail_after hrd (afterOpd_end ws2 c hws2 hc) k
  | cons x xs ih =>
    intro first hg hm ws2 c hws2 hc k hk
    obtain ⟨h1, h2⟩ := prag_after (x :: xs) hm ws2 c hws2 hc
    simp only [List.length_cons] at hk
    obtain ⟨k', rfl⟩ : ∃ k', k = k' + 1 := ⟨k - 1, by omega⟩
    rw [spacedOps, directiveOp_pitem first hg _ h1 h2]
    simp only [(prag_gap x xs hm (ws2 ++ c)).2.1]
    rw [ih x.2 (hm x (List.mem_cons_self ..)).2.2 (fun y hy => hm y (List.mem_cons_of_mem _ hy)) ws2 c hws2 hc k' (by omega)]
    by_cases hk' : k' = xs.length <;> simp [hk']

/-- exactly as many blank-separated operands as there are: read -/
theorem spacedOps_exact : ∀ (more : List (Str × PItem)) (first : PItem), first.good → pragOk more →
    ∀ (ws2 c : Str), blanks ws2 → lineEnd c →
      spacedOps (more.length + 1) (first.text ++ (pragTail more ++ (ws2 ++ c))) =
        .ok (first.val :: more.map (fun x => x.2.val)) (ws2 ++ c) := by
  intro more first hg hm ws2 c hws2 hc
  simpa using spacedOps_prag more first hg hm ws2 c hws2 hc more.length (Nat.le_refl _)

/-- more than there are: not read -/
theorem spacedOps_more : ∀ (more : List (Str × PItem)) (first : PItem), first.good → pragOk more →
    ∀ (ws2 c : Str), blanks ws2 → lineEnd c → ∀ k, more.length + 1 < k + 2 →
      spacedOps (k + 2) (first.text ++ (pragTail more ++ (ws2 ++ c))) = .fail := by
  intro more first hg hm ws2 c hws2 hc k hk
  rw [spacedOps_prag more first hg hm ws2 c hws2 hc (k + 1) (by omega), if_neg (by omega)]

theorem prag_lead (first : PItem) (hg : first.good) (x : Str × PItem) (xs : List (Str × PItem)) (hm : pragOk (x :: xs))
    (ws2 c : Str) : LeadOk (first.text ++ (pragTail (x :: xs) ++ (ws2 ++ c))) := by
  cases first with
  | num t n => exact leadOk_numText hg _
  | name s =>
    obtain ⟨hsp, _, y, ys, hsk, hy⟩ := prag_gap x xs hm (ws2 ++ c)
    exact Or.inr ⟨s, _, rfl, hg, fun z hz => (space_facts (hsp z hz)).2.1,
      by rw [hsk]; exact Or.inr (Or.inl ⟨y, ys, rfl, (wordStart_facts y hy).2.2⟩)⟩

theorem directiveOps_pragma (first : PItem) (hg : first.good) (more : List (Str × PItem)) (hm : pragOk more)
    (hlen : 1 ≤ more.length ∧ more.length ≤ 5) (ws2 c : Str) (hws2 : blanks ws2) (hc : lineEnd c) :
    directiveOps (first.text ++ (pragTail more ++ (ws2 ++ c))) =
      .ok (.opList (first.val :: more.map (fun x => x.2.val))) (ws2 ++ c) := by
  have hlead : LeadOk (first.text ++ (pragTail more ++ (ws2 ++ c))) := by
    cases more with
    | nil => simp at hlen
    | cons x xs => exact prag_lead first hg x xs hm ws2 c
  rw [directiveOps_noAssign _ hlead]
  have hex := spacedOps_exact more first hg hm ws2 c hws2 hc
  have hmo := spacedOps_more more first hg hm ws2 c hws2 hc
  have : more.length = 1 ∨ more.length = 2 ∨ more.length = 3 ∨ more.length = 4 ∨ more.length = 5 := by omega
  rcases this with h | h | h | h | h <;> (rw [h] at hex hmo; simp [directiveOps.tryN, hmo, hex])

/-- **A `#pragma` line** (or any directive with 2..6 operands — names and numbers — separated by
    blanks only): `#` or `.`, indented or not, behind a label or not, any (non-empty) runs of blanks
    between the operands, any blanks and any comment at the end — is that directive with exactly
    those operands -/
theorem pragma_line (lab : Option Str) (labText ws1 : Str) (p : Char) (name wsA : Str) (first : PItem) (more : List (Str × PItem))
    (ws2 c : Str) (hp : p = '.' ∨ p = '#')
    (hlabel : (lab = none ∧ labText = []) ∨ ∃ l, isName l ∧ lab = some (lower l) ∧ labText = l ++ [':'])
    (hws1 : blanks ws1) (hname : name ≠ []) (hlow : ∀ ch ∈ name, isLowerAlpha ch = true)
    (hwsA : blanks wsA) (hA : wsA ≠ []) (hg : first.good) (hm : pragOk more)
    (hlen : 1 ≤ more.length ∧ more.length ≤ 5) (hws2 : blanks ws2) (hc : lineEnd c) :
    line (labText ++ (ws1 ++ (p :: (name ++ (wsA ++ (first.text ++ (pragTail more ++ (ws2 ++ c)))))))) =
      .ok (.directiveLine lab (directiveOfName name) (.opList (first.val :: more.map (fun x => x.2.val)))) :=
  directive_line_of_ops lab labText ws1 p name wsA _ _ ws2 c hp hlabel hws1 hname hlow hwsA hA
    (directiveOps_pragma first hg more hm hlen ws2 c hws2 hc) (skip_pitem first hg _) hws2 hc

/-! non-vacuity: `#pragma AVRPART MEMORY  PROG_FLASH 2048 ; words` -/
example : ∃ ops, line "#pragma AVRPART MEMORY  PROG_FLASH 2048 ; words".toList =
    .ok (.directiveLine none (directiveOfName "pragma".toList) ops) := by
  simp only [String.reduceToList]
  have := pragma_line none [] [] '#' ['p', 'r', 'a', 'g', 'm', 'a'] [' '] (.name ['A', 'V', 'R', 'P', 'A', 'R', 'T'])
    [([' '], .name ['M', 'E', 'M', 'O', 'R', 'Y']), ([' ', ' '], .name ['P', 'R', 'O', 'G', '_', 'F', 'L', 'A', 'S', 'H']),
     ([' '], .num (natToDec 2048) 2048)] [' '] [';', ' ', 'w', 'o', 'r', 'd', 's']
    (Or.inr rfl) (Or.inl ⟨rfl, rfl⟩) blanks_nil (by decide) (by decide) blanks_sp (by decide) (isName_cons (by decide))
    (by
      intro x hx
      simp only [List.mem_cons, List.not_mem_nil, or_false] at hx
      rcases hx with rfl | rfl | rfl
      · exact ⟨blanks_sp, by decide, isName_cons (by decide)⟩
      · exact ⟨by unfold blanks; decide, by decide, isName_cons (by decide)⟩
      · exact ⟨blanks_sp, by decide, numText_natToDec 2048 (by decide)⟩)
    (by decide) blanks_sp (Or.inr ⟨Or.inl rfl, rfl⟩)
  exact ⟨_, this⟩

/-! ### the property's words, for the lines covered -/

/-- **what carries no meaning in an instruction line**: two writings with the same operation name
    up to letter case and operands of the same VALUE — a register as `r16` or `R16`, a number in
    any radix, an expression with other blanks or further parentheses, an index form in either
    letter case — whatever the indentation, the blanks after the name, around every comma and at
    the end, and whatever comment (or none) follows, parse to the same thing -/
theorem instruction_line_spelling_irrelevant
    (ws1 ws1' n n' wsA wsA' : Str) (o o' : Opd) (more more' : List (Str × Str × Opd)) (ws2 ws2' c c' : Str)
    (hws1 : blanks ws1) (hws1' : blanks ws1') (hn : isName n) (hn' : isName n') (hcase : lower n = lower n')
    (hwsA : blanks wsA) (hwsA' : blanks wsA') (hA : wsA ≠ []) (hA' : wsA' ≠ [])
    (hg : o.ok) (hg' : o'.ok) (hval : o.val = o'.val) (hm : opdsOk more) (hm' : opdsOk more')
    (hsame : more.map (fun x => x.2.2.val) = more'.map (fun x => x.2.2.val))
    (hws2 : blanks ws2) (hws2' : blanks ws2') (hc : lineEnd c) (hc' : lineEnd c') :
    parseLine (ws1 ++ (n ++ (wsA ++ (o.text ++ (opdTail more ++ (ws2 ++ c)))))) =
    parseLine (ws1' ++ (n' ++ (wsA' ++ (o'.text ++ (opdTail more' ++ (ws2' ++ c')))))) := by
  unfold parseLine
  rw [operands_instruction_line ws1 n wsA o more ws2 c hws1 hn hwsA hA hg hm hws2 hc,
      operands_instruction_line ws1' n' wsA' o' more' ws2' c' hws1' hn' hwsA' hA' hg' hm' hws2' hc', hsame, hval, hcase]

/-- **blanks and comments of an instruction line carry no meaning**: two writings with the same
    operation name and the same operands — whatever the indentation, the blanks after the name,
    around every comma and at the end, and whatever comment (or none) follows — parse to the same thing -/
theorem instruction_line_layout_irrelevant
    (ws1 ws1' n wsA wsA' : Str) (o : Opd) (more more' : List (Str × Str × Opd)) (ws2 ws2' c c' : Str)
    (hws1 : blanks ws1) (hws1' : blanks ws1') (hn : isName n) (hwsA : blanks wsA) (hwsA' : blanks wsA')
    (hA : wsA ≠ []) (hA' : wsA' ≠ []) (hg : o.ok) (hm : opdsOk more) (hm' : opdsOk more')
    (hsame : more.map (fun x => x.2.2.val) = more'.map (fun x => x.2.2.val))
    (hws2 : blanks ws2) (hws2' : blanks ws2') (hc : lineEnd c) (hc' : lineEnd c') :
    parseLine (ws1 ++ (n ++ (wsA ++ (o.text ++ (opdTail more ++ (ws2 ++ c)))))) =
    parseLine (ws1' ++ (n ++ (wsA' ++ (o.text ++ (opdTail more' ++ (ws2' ++ c')))))) :=
  instruction_line_spelling_irrelevant ws1 ws1' n n wsA wsA' o o more more' ws2 ws2' c c' hws1 hws1' hn hn rfl hwsA hwsA' hA hA'
    hg hg rfl hm hm' hsame hws2 hws2' hc hc'

/-- the letter case of the operation name carries no meaning -/
theorem instruction_line_case_irrelevant
    (ws1 n n' wsA : Str) (o : Opd) (more : List (Str × Str × Opd)) (ws2 c : Str)
    (hws1 : blanks ws1) (hn : isName n) (hn' : isName n') (hcase : lower n = lower n') (hwsA : blanks wsA)
    (hA : wsA ≠ []) (hg : o.ok) (hm : opdsOk more) (hws2 : blanks ws2) (hc : lineEnd c) :
    parseLine (ws1 ++ (n ++ (wsA ++ (o.text ++ (opdTail more ++ (ws2 ++ c)))))) =
    parseLine (ws1 ++ (n' ++ (wsA ++ (o.text ++ (opdTail more ++ (ws2 ++ c)))))) :=
  instruction_line_spelling_irrelevant ws1 ws1 n n' wsA wsA o o more more ws2 ws2 c c hws1 hws1 hn hn' hcase hwsA hwsA hA hA
    hg hg rfl hm hm rfl hws2 hws2 hc hc

/-- the same for directive lines -/
theorem directive_line_spelling_irrelevant (lab : Option Str) (labText ws1 ws1' name wsA wsA' : Str) (o o' : Dpd)
    (more more' : List (Str × Str × Dpd)) (ws2 ws2' c c' : Str)
    (hlabel : (lab = none ∧ labText = []) ∨ ∃ l, isName l ∧ lab = some (lower l) ∧ labText = l ++ [':'])
    (hws1 : blanks ws1) (hws1' : blanks ws1') (hname : name ≠ []) (hlow : ∀ ch ∈ name, isLowerAlpha ch = true)
    (hwsA : blanks wsA) (hwsA' : blanks wsA') (hA : wsA ≠ []) (hA' : wsA' ≠ []) (hg : o.ok) (hg' : o'.ok) (hval : o.val = o'.val)
    (hm : dpdsOk more) (hm' : dpdsOk more')
    (hlead : LeadOk (o.text ++ (dpdTail more ++ (ws2 ++ c)))) (hlead' : LeadOk (o'.text ++ (dpdTail more' ++ (ws2' ++ c'))))
    (hsame : more.map (fun x => x.2.2.val) = more'.map (fun x => x.2.2.val))
    (hws2 : blanks ws2) (hws2' : blanks ws2') (hc : lineEnd c) (hc' : lineEnd c') :
    parseLine (labText ++ (ws1 ++ ('.' :: (name ++ (wsA ++ (o.text ++ (dpdTail more ++ (ws2 ++ c)))))))) =
    parseLine (labText ++ (ws1' ++ ('.' :: (name ++ (wsA' ++ (o'.text ++ (dpdTail more' ++ (ws2' ++ c')))))))) := by
  unfold parseLine
  rw [operands_directive_line lab labText ws1 name wsA o more ws2 c hlabel hws1 hname hlow hwsA hA hg hm hlead hws2 hc,
      operands_directive_line lab labText ws1' name wsA' o' more' ws2' c' hlabel hws1' hname hlow hwsA' hA' hg' hm' hlead' hws2' hc', hsame, hval]

/-- indentation, blanks after the name, around the commas and at the end, and the comment of a
    directive line carry no meaning -/
theorem directive_line_layout_irrelevant (lab : Option Str) (labText ws1 ws1' name wsA wsA' : Str) (o : Dpd)
    (more more' : List (Str × Str × Dpd)) (ws2 ws2' c c' : Str)
    (hlabel : (lab = none ∧ labText = []) ∨ ∃ l, isName l ∧ lab = some (lower l) ∧ labText = l ++ [':'])
    (hws1 : blanks ws1) (hws1' : blanks ws1') (hname : name ≠ []) (hlow : ∀ ch ∈ name, isLowerAlpha ch = true)
    (hwsA : blanks wsA) (hwsA' : blanks wsA') (hA : wsA ≠ []) (hA' : wsA' ≠ []) (hg : o.ok)
    (hm : dpdsOk more) (hm' : dpdsOk more')
    (hlead : LeadOk (o.text ++ (dpdTail more ++ (ws2 ++ c)))) (hlead' : LeadOk (o.text ++ (dpdTail more' ++ (ws2' ++ c'))))
    (hsame : more.map (fun x => x.2.2.val) = more'.map (fun x => x.2.2.val))
    (hws2 : blanks ws2) (hws2' : blanks ws2') (hc : lineEnd c) (hc' : lineEnd c') :
    parseLine (labText ++ (ws1 ++ ('.' :: (name ++ (wsA ++ (o.text ++ (dpdTail more ++ (ws2 ++ c)))))))) =
    parseLine (labText ++ (ws1' ++ ('.' :: (name ++ (wsA' ++ (o.text ++ (dpdTail more' ++ (ws2' ++ c')))))))) :=
  directive_line_spelling_irrelevant lab labText ws1 ws1' name wsA wsA' o o more more' ws2 ws2' c c' hlabel hws1 hws1' hname hlow
    hwsA hwsA' hA hA' hg hg rfl hm hm' hlead hlead' hsame hws2 hws2' hc hc'

/-- an expression operand may be written in any of its `Spaced` ways: other blanks, other
    parentheses -/
theorem expression_writing_irrelevant (k k' : Nat) (e : Expr) (s s' : Str) (hsp : Spaced 0 k e s) (hsp' : Spaced 0 k' e s')
    (rest : Str) (hr : AfterOpd rest) : directiveOp (s ++ rest) = directiveOp (s' ++ rest) := by
  have h1 := (Dpd.ofExpr_ok k e s hsp).1 rest hr
  have h2 := (Dpd.ofExpr_ok k' e s' hsp').1 rest hr
  simp only [Dpd.ofExpr] at h1 h2
  rw [h1, h2]

/-- registers in either letter case, numbers in any spelling: operands of the same value -/
example (k : Nat) : (Opd.ofItem (.reg false k)).val = (Opd.ofItem (.reg true k)).val := rfl
example (t t' : Str) (n : Nat) : (Opd.ofItem (.num t n)).val = (Opd.ofItem (.num t' n)).val := rfl
example (e : Expr) (s s' : Str) : (Opd.ofExpr e s).val = (Opd.ofExpr e s').val := rfl
example (r : Reg16) : (Opd.postInc false r).val = (Opd.postInc true r).val := rfl

end Avra.Props.C14
