/-
  C06 — data directives emit exactly the bytes written, little-endian, exact width.
-/
import Avra.Lemmas.Passes
import Avra.Spec.Data
namespace Avra.Props.C06
open Avra.Model Avra.Spec

/-- what an operand denotes in a context (evaluation by the model's evaluator, whose agreement
    with the operator table is C05) -/
def denote (c : Ctx) : Operand → DataOp
  | .s s => .str (utf8 s)
  | .e e =>
    match eval c e with
    | .ok v => .val v
    | _ => .bad

def toOpt : DataRes → Option (List Nat)
  | .ok bs => some bs
  | _ => none

theorem leBytes_byte (w : Nat) : ∀ (x : Nat), leBytes w x = (List.range w).map fun i => x / 256 ^ i % 256 := by
  induction w with
  | zero => intro x; rfl
  | succ w ih =>
    intro x
    simp only [leBytes, ih, List.range_succ_eq_map, List.map_cons, List.map_map]
    congr 1
    · simp
    · apply List.map_congr_left
      intro i _
      simp only [Function.comp, Nat.pow_succ]
      rw [Nat.div_div_eq_div_mul, Nat.mul_comm]

theorem emod_ediv_emod (v a b k : Int) (ha : a ≠ 0) : v % (a * (b * k)) / a % b = v / a % b := by
  rw [Int.emod_def v, Int.sub_eq_add_neg, ← Int.mul_neg, Int.mul_assoc, Int.add_mul_ediv_left _ _ ha,
    Int.mul_assoc, Int.add_mul_emod_self_left]

theorem leBytes_asU (w : Nat) (v : Int) : leBytes w (asU (8 * w) v) = leInt w v := by
  rw [leBytes_byte, leInt]
  apply List.map_congr_left
  intro i hi
  have hi : i < w := List.mem_range.1 hi
  have hw : (2 : Int) ^ (8 * w) = 256 ^ i * (256 * 256 ^ (w - i - 1)) := by
    rw [← Int.pow_succ', ← Int.pow_add, show (256 : Int) = 2 ^ 8 from rfl, ← Int.pow_mul]
    congr 1; omega
  have h2 : (2 : Int) ^ (8 * w) ≠ 0 := Int.pow_ne_zero (by decide)
  unfold byteOf asU
  apply Int.ofNat_inj.1
  rw [Int.toNat_of_nonneg (Int.emod_nonneg _ (by decide))]
  simp only [Int.natCast_emod, Int.natCast_ediv, Int.natCast_pow, Int.toNat_of_nonneg (Int.emod_nonneg _ h2)]
  rw [hw]
  exact emod_ediv_emod v _ 256 _ (Int.pow_ne_zero (by decide))

theorem leBytes_length (w x : Nat) : (leBytes w x).length = w := by
  rw [leBytes_byte, List.length_map, List.length_range]

theorem ranged {α : Type} (v lo hi : Int) (a b : α) :
    (if v > hi ∨ v < lo then a else b) = if decide (lo ≤ v ∧ v ≤ hi) then b else a := by
  by_cases h : lo ≤ v ∧ v ≤ hi
  · rw [if_neg (by omega), if_pos (decide_eq_true h)]
  · rw [if_pos (by omega), if_neg (by simpa using h)]

/-- the model's four arms as one, in the element width: what length, content and range of an
    operand's bytes follow from without looking at the directive again.  The table's bounds
    (powers of two) evaluate to the model's (literals). -/
theorem operandBytes_val {c : Ctx} {e : Expr} {v : Int} (dt : DataDefine) (h : eval c e = .ok v) :
    operandBytes c dt (.e e) =
      if fitsWidth (widthOf dt) v then .ok (leBytes (widthOf dt) (asU (8 * widthOf dt) v)) else .err := by
  simp only [operandBytes, h]
  cases dt
  · exact ranged v (-128) 255 _ _
  · exact ranged v (-32768) 65535 _ _
  · exact ranged v (-2147483648) 4294967295 _ _
  · rfl

/-- one operand: the model emits exactly the bytes the spec prescribes, and fails exactly when
    the spec says the build must fail (value outside the element's signed/unsigned range, string
    in a word directive, operand that does not evaluate) -/
theorem operand_spec (c : Ctx) (dt : DataDefine) (o : Operand) :
    toOpt (operandBytes c dt o) = elemBytes dt (denote c o) := by
  cases o with
  | s s => cases dt <;> rfl
  | e e =>
    cases h : eval c e with
    | ok v =>
      simp only [operandBytes_val dt h, denote, h, elemBytes]
      cases fitsWidth (widthOf dt) v
      · rfl
      · exact congrArg some (leBytes_asU _ v)
    | _ => simp only [operandBytes, denote, h]; rfl

/-- C06: for EVERY operand list (any length, any mix of expressions, symbols and strings), every
    element width and every context, the model of the data emission yields the operands' bytes in
    source order, little-endian, exact width — or fails when one operand must fail -/
theorem line_spec (c : Ctx) (dt : DataDefine) (ops : List Operand) :
    toOpt (dataBytes c dt ops) = lineBytes dt (ops.map (denote c)) := by
  induction ops with
  | nil => rfl
  | cons o more ih =>
    simp only [dataBytes, List.map_cons, lineBytes]
    rw [← operand_spec, ← ih]
    cases operandBytes c dt o <;> cases dataBytes c dt more <;> rfl

/-- pass 1 appends the constant 0 to a flash `.db` line of odd length: pass 2 then emits exactly
    one extra zero byte -/
theorem pad_byte (c : Ctx) (ops : List Operand) (bs : List Nat) (h : dataBytes c .db ops = .ok bs) :
    dataBytes c .db (ops ++ [.e (.const 0)]) = .ok (bs ++ [0]) :=
  dataBytes_induction (fun ops bs => dataBytes c .db (ops ++ [.e (.const 0)]) = .ok (bs ++ [0])) rfl
    (fun _ _ b bm ho _ ih => dataBytes_cons_ok.2 ⟨b, bm ++ [0], ho, ih, List.append_assoc ..⟩) ops bs h

theorem operandBytes_length {c : Ctx} {dt : DataDefine} {o : Operand} {b : List Nat} (h : operandBytes c dt o = .ok b) :
    b.length = if dt = .db then operandLen o else widthOf dt := by
  cases o with
  | s s => cases dt <;> cases h; rfl
  | e e =>
    cases he : eval c e with
    | ok v =>
      rw [operandBytes_val dt he] at h
      split at h <;> cases h
      rw [leBytes_length]
      cases dt <;> rfl
    | _ => simp [operandBytes, he] at h

theorem dataBytes_length {c : Ctx} {dt : DataDefine} {ops : List Operand} {bs : List Nat} (h : dataBytes c dt ops = .ok bs) :
    bs.length = (ops.map fun o => if dt = .db then operandLen o else widthOf dt).sum :=
  dataBytes_induction (fun ops bs => bs.length = (ops.map fun o => if dt = .db then operandLen o else widthOf dt).sum) rfl
    (fun _ _ _ _ ho _ ih => by rw [List.length_append, ih, operandBytes_length ho]; rfl) ops bs h

/-- the size pass 1 books for a `.db` line equals the number of bytes pass 2 emits for it -/
theorem db_length (c : Ctx) (ops : List Operand) (bs : List Nat) (h : dataBytes c .db ops = .ok bs) :
    bs.length = actualLen ops := by
  rw [dataBytes_length h, List.sum_eq_foldl, List.foldl_map]; rfl

/-- … and for `.dw/.dd/.dq`: `width` bytes per operand -/
theorem word_length (c : Ctx) (dt : DataDefine) (hdt : dt ≠ .db) (ops : List Operand) (bs : List Nat)
    (h : dataBytes c dt ops = .ok bs) : bs.length = ops.length * widthOf dt := by
  rw [dataBytes_length h]; simp only [if_neg hdt, List.map_const', List.sum_replicate_nat]

/-! non-vacuity -/
example : lineBytes .dw [.val (-1), .val 0x1234] = some [0xff, 0xff, 0x34, 0x12] := by decide +kernel
example : lineBytes .db [.val 256] = none := by decide +kernel
example : lineBytes .dd [.val (-2147483649)] = none := by decide +kernel
example : placedLine .code .db [.val 1, .str [0x61, 0x62]] = some [1, 0x61, 0x62, 0] := by decide +kernel

end Avra.Props.C06
