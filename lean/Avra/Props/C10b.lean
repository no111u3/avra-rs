/-
  C10, from the context updates to pass 2: the steps `.set`, `.def`, `.undef` as pass 2 performs
  them on the item list, and the binding rules in sequence (definition → use, `.undef` → use,
  assignment → reference).
-/
import Avra.Props.C10
import Avra.Props.C03b
namespace Avra.Props.C10b
open Avra.Model Avra.Props.C10 Avra.Props.C03b

/-- `.set name = e` inside pass 2: the expression is evaluated where the line stands (with `pc`
    = the current address and every EARLIER assignment in force); the name — lower-cased — is
    bound to the VALUE, and pass 2 goes on with the next item.  A name that is something else
    already (label, `.equ`, `.def`, flag) is refused with the line. -/
theorem set_item (t : SegT) (ln : Nat) (name : Str) (e : Expr) (rest : List (Nat × Item))
    (cur : Nat) (acc : List Nat) (ctx : Ctx) (v : Int)
    (hev : eval (atPc ctx cur) e = .ok v) :
    pass2Items t ((ln, .set name e) :: rest) cur acc ctx =
      if (atPc ctx cur).exist (lower name) = true ∧ (alookup (lower name) ctx.sets).isSome = false
      then .error ⟨some ln, "set-twice"⟩
      else pass2Items t rest cur acc
        { atPc ctx cur with sets := ainsert (lower name) (.const v) ctx.sets } := by
  rw [pass2Items_cons]
  have hs : (atPc ctx cur).sets = ctx.sets := rfl
  simp only [pass2Step, hev, hs]
  by_cases h1 : (atPc ctx cur).exist (lower name) = true
  · by_cases h2 : (alookup (lower name) ctx.sets).isSome = true
    · simp [h1, h2]
    · simp [h1, h2, lineErr]
  · simp [h1]

/-- `.def alias = rN` inside pass 2: from here on the alias (lower-cased) is register N; an alias
    that is anything already is refused with the line -/
theorem def_item (t : SegT) (ln : Nat) (alias reg : Str) (r : Nat) (rest : List (Nat × Item))
    (cur : Nat) (acc : List Nat) (ctx : Ctx) (hreg : regOfName (lower reg) = some r) :
    pass2Items t ((ln, .def alias (.ident reg)) :: rest) cur acc ctx =
      if (atPc ctx cur).exist alias = true then .error ⟨some ln, "def-twice"⟩
      else if (atPc ctx cur).exist (lower alias) = true then pass2Items t rest cur acc (atPc ctx cur)
      else pass2Items t rest cur acc { atPc ctx cur with defs := ainsert (lower alias) r ctx.defs } := by
  rw [pass2Items_cons]
  simp only [pass2Step, hreg]
  split
  · rfl
  · split <;> simp <;> rfl

/-- `.undef alias` inside pass 2: the alias is gone from here on; removing what is no alias is an
    error naming the line -/
theorem undef_item (t : SegT) (ln : Nat) (alias : Str) (rest : List (Nat × Item))
    (cur : Nat) (acc : List Nat) (ctx : Ctx) :
    pass2Items t ((ln, .undef alias) :: rest) cur acc ctx =
      if (alookup (lower alias) ctx.defs).isSome = true
      then pass2Items t rest cur acc { atPc ctx cur with defs := aremove (lower alias) ctx.defs }
      else .error ⟨some ln, "undef-unknown"⟩ := by
  rw [pass2Items_cons]
  have hd : (atPc ctx cur).defs = ctx.defs := rfl
  simp only [pass2Step, hd]
  split
  · simp only [Out.ok_bind, Nat.add_zero, List.append_nil]
  · rfl

theorem checkInstruction_alias (d : Device) (op : Op) (pre post : List IOp) (name : Str) (n : Nat) :
    checkInstruction d op (pre ++ .e (.ident name) :: post) = checkInstruction d op (pre ++ .r8 n :: post) := by
  unfold checkInstruction
  simp [List.all_append, argAllowed]

/-- an instruction LINE written with an alias assembles, inside pass 2, exactly as the same line
    written with the register — same bytes, same continuation, same errors — in every operand
    position of every mnemonic -/
theorem alias_item_same (t : SegT) (ln : Nat) (op : Op) (name : Str) (n : Nat) (pre post : List IOp)
    (rest : List (Nat × Item)) (cur : Nat) (acc : List Nat) (ctx : Ctx)
    (hdef : ctx.getDef name = some n) (hnoexpr : (atPc ctx cur).getExpr name = none) :
    pass2Items t ((ln, .instruction op (pre ++ .e (.ident name) :: post)) :: rest) cur acc ctx =
    pass2Items t ((ln, .instruction op (pre ++ .r8 n :: post)) :: rest) cur acc ctx := by
  rw [pass2Items_instruction, pass2Items_instruction,
    alias_same_bytes (atPc ctx cur) op name n pre post cur hdef hnoexpr, checkInstruction_alias]

theorem regName_reads : ∀ r, r < 32 → regOfName (lower ('r' :: natToDec r)) = some r := by decide +kernel

theorem atPc_atPc (ctx : Ctx) (a b : Nat) : atPc (atPc ctx a) b = atPc ctx b := by
  simp only [atPc, ainsert_idem]

/-- the binding rule "from the definition on": `.def a = rN` followed by a use of `a` (in any
    letter case) is, inside pass 2, the use of register N -/
theorem def_then_use (t : SegT) (l1 l2 : Nat) (alias ref : Str) (r : Nat) (op : Op) (pre post : List IOp)
    (rest : List (Nat × Item)) (cur : Nat) (acc : List Nat) (ctx : Ctx) (hr : r < 32)
    (hcase : lower ref = lower alias)
    (hnew : (atPc ctx cur).exist alias = false) (hnew' : (atPc ctx cur).exist (lower alias) = false)
    (hnoexpr : (atPc ctx cur).getExpr ref = none) :
    pass2Items t ((l1, .def alias (.ident ('r' :: natToDec r))) ::
                  (l2, .instruction op (pre ++ .e (.ident ref) :: post)) :: rest) cur acc ctx =
    pass2Items t ((l2, .instruction op (pre ++ .r8 r :: post)) :: rest) cur acc
      { atPc ctx cur with defs := ainsert (lower alias) r ctx.defs } := by
  rw [def_item t l1 alias _ r _ cur acc ctx (regName_reads r hr)]
  simp only [hnew, hnew', Bool.false_eq_true, if_false]
  apply alias_item_same
  · exact def_binds (atPc ctx cur) alias ref r hcase
  · show (atPc (atPc ctx cur) cur).getExpr ref = none
    rw [atPc_atPc]; exact hnoexpr

/-- … "until `.undef`": `.undef a` followed by a use of `a` fails the build, naming the line of
    the USE (a one-register instruction here) -/
theorem undef_then_use (t : SegT) (l3 l4 : Nat) (alias ref : Str)
    (rest : List (Nat × Item)) (cur : Nat) (acc : List Nat) (ctx : Ctx)
    (hcase : lower ref = lower alias)
    (hlive : (alookup (lower alias) ctx.defs).isSome = true) :
    pass2Items t ((l3, .undef alias) :: (l4, .instruction .inc [.e (.ident ref)]) :: rest) cur acc ctx =
      .error ⟨some l4, "instruction"⟩ := by
  rw [undef_item, if_pos hlive, instruction_words, if_pos (by rfl)]
  have hbad := dead_alias_is_bad (atPc { atPc ctx cur with defs := aremove (lower alias) ctx.defs } cur) ref
    (undef_unbinds (atPc ctx cur) alias ref hcase)
  -- `inc` reads its one operand as a register
  show (match Enc.mWords _ .inc [(resolveOne _ .reg (.e (.ident ref))).getD .bad] cur with
    | some _ => _ | none => _) = _
  rw [hbad]
  cases (atPc ctx cur).device.isAvr8l <;> rfl

/-- "the latest preceding assignment": after `.set name = e` (value `v`), a reference to the name
    in any letter case, at any later address, evaluates to `v` — whatever an earlier `.set` of the
    same name had bound (`ainsert` replaces) -/
theorem set_then_read (ctx : Ctx) (cur cur' : Nat) (name ref : Str) (v : Int)
    (hcase : lower ref = lower name)
    (hd : alookup ref ctx.defines = none) (he : alookup (lower ref) ctx.equs = none) :
    eval (atPc { atPc ctx cur with sets := ainsert (lower name) (.const v) ctx.sets } cur') (.ident ref)
      = .ok v :=
  eval_const_symbol _ _ _ (set_latest (atPc (atPc ctx cur) cur') name ref v hcase hd he)

/-- a second assignment replaces the first: the table afterwards is the table with only the
    later value -/
theorem set_twice_latest (sets : List (Str × Expr)) (n : Str) (v1 v2 : Int) :
    ainsert n (Expr.const v2) (ainsert n (Expr.const v1) sets) = ainsert n (Expr.const v2) sets :=
  ainsert_idem n _ _ sets

/-! non-vacuity -/
def exCtx : Ctx :=
  { device := { flash := 4194304, ramStart := 96, ramSize := 8388608, eeprom := 65536, opts := [] } }

example := def_then_use .code 1 2 "Tmp".toList "TMP".toList 16 .inc [] [] [] 0 [] exCtx
  (by decide) (by decide) (by decide) (by decide) (by decide)
example := undef_then_use .code 3 4 "Tmp".toList "tMP".toList [] 0 []
  { exCtx with defs := [("tmp".toList, 16)] } (by decide) (by decide)
example := set_then_read exCtx 0 7 "Count".toList "COUNT".toList 5 (by decide) (by decide) (by decide)

end Avra.Props.C10b
