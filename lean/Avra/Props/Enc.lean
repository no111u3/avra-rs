/-
  The encoder model agrees with the independent ISA spec on every mnemonic, every operand list
  (any count, any kinds) and every i64 operand value, on both cores.
-/
import Avra.Lemmas.Families
import Avra.Lemmas.Info
namespace Avra.Props.Enc
open Avra.Model Avra.Isa Avra.Lemmas

/-- model words = ISA encoding of what the legality spec says the operands denote, or both
    reject — for every standard mnemonic, both cores, all resolved operand lists, all addresses -/
theorem model_eq_spec (b : Bool) (op : Op) (args : List AArg) (addr : Nat)
    (hstd : ∀ n, op ≠ .custom n) (hr : regsOk args) :
    mWords b op args addr = sWords b op args addr := by
  -- the row of the extracted table carries the opcode `baseOf b op`; what remains is the arm of
  -- `process` with that opcode behind the operand-count check (`armWords`), one lemma per family
  obtain ⟨len, hi⟩ := info_base b op hstd
  simp only [mWords, sWords, hi]
  cases op with
  | add | adc | sub | sbc | and | or | eor | cpse | cp | cpc | mov | mul => exact fam_rr _ args hr
  | tst | clr | lsl | rol => exact fam_same _ args hr
  | com | neg | inc | dec | push | pop | lsr | ror | asr | swap => exact fam_one _ args hr
  | subi | sbci | andi | ori | sbr | cpi | ldi => exact fam_imm _ false id (fun _ => rfl) args hr
  | cbr => exact fam_imm _ true _ (fun _ => rfl) args hr
  | ser => exact fam_ser args hr
  | adiw => exact fam_adiw false args
  | sbiw => exact fam_adiw true args
  | muls => exact fam_muls args hr
  | mulsu | fmul | fmuls | fmulsu => exact fam_mulf _ args
  | movw => exact fam_movw args hr
  | rjmp => exact fam_rel addr false args
  | rcall => exact fam_rel addr true args
  | jmp => exact fam_abs false args
  | call => exact fam_abs true args
  | lds => exact fam_lds _ args hr
  | sts => exact fam_sts _ args hr
  | ld | ldd => exact fam_ld args hr
  | st | std => exact fam_st args hr
  | lpm | elpm => exact fam_lpm _ args hr
  | «in» => exact fam_in args hr
  | out => exact fam_out args hr
  | sbrc => exact fam_regbit _ _ (pack_sbr false) args hr
  | sbrs => exact fam_regbit _ _ (pack_sbr true) args hr
  | bst => exact fam_regbit _ _ (pack_bt false) args hr
  | bld => exact fam_regbit _ _ (pack_bt true) args hr
  | sbi | cbi | sbis | sbic => exact fam_iobit _ args
  | bset => exact fam_flagv false args
  | bclr => exact fam_flagv true args
  | ijmp | eijmp | icall | eicall | ret | reti | spm | «break» | nop | sleep | wdr => exact fam_none _ args
  | se f => exact fam_flag false _ args
  | cl f => exact fam_flag true _ args
  | br t =>
    cases t with
    | bs => exact fam_brb addr false args
    | bc => exact fam_brb addr true args
    | _ =>
      -- unfolded first: with the branch not yet known the unifier is slow to see through `encodeR`
      dsimp only [encodeR, surface, allowedArgs, baseOf]
      exact fam_br addr _ rfl args
  | custom n => exact absurd rfl (hstd n)

end Avra.Props.Enc
