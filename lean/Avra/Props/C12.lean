/-
  C12 — memory capacity limits of the selected device are enforced exactly.
-/
import Avra.Lemmas.Passes
namespace Avra.Props.C12
open Avra.Model

/-- Gen obligation: for every shipped part-definition file whose device is in the table, the
    capacities the table enforces are the four figures the file declares
    (`#pragma AVRPART MEMORY PROG_FLASH / EEPROM / INT_SRAM SIZE / INT_SRAM START_ADDR`). -/
def partDefsOk : Bool :=
  Gen.partDefs.all fun (_, dev, flashB, ee, rs, ra) =>
    match alookup dev Gen.devices with
    | none => true          -- a part file for a device the table does not know selects nothing
    | some d => 2 * d.flash == flashB && d.eeprom == ee && d.ramSize == rs && d.ramStart == ra

/-- how many shipped files name a device of the table (the obligation above is not vacuous) -/
def partDefsMatched : Nat := (Gen.partDefs.filter fun (_, dev, _) => (alookup dev Gen.devices).isSome).length

/-- both table facts in one evaluation (they look the same devices up) -/
theorem partDefs_table : partDefsOk = true ∧ partDefsMatched ≥ 40 := by decide +kernel

theorem devices_match_partdefs : partDefsOk = true := partDefs_table.1
theorem partdefs_nonvacuous : partDefsMatched ≥ 40 := partDefs_table.2

/-- the documented defaults when no device is selected: 4 Mi words of flash, 64 KiB EEPROM,
    8 MiB RAM starting at 0x60, every instruction available -/
theorem default_device :
    Gen.defaultDevice = { flash := 4194304, ramStart := 0x60, ramSize := 8388608, eeprom := 65536, opts := [] } := by
  decide

/-- C12: a build succeeds only if the three images fit the selected device exactly as the
    property says (bytes of flash ≤ 2·words, EEPROM bytes, RAM extent), and the sizes it reports
    are those of the device selected at the end of the passes. -/
theorem build_fits (fs : Fs) (st : PState) (r : BuildResult)
    (h : buildFromParsed fs st = .ok r) :
    r.code.length ≤ 2 * r.flashSize ∧ r.eeprom.length ≤ r.eepromSize ∧ r.ramFilling ≤ r.ramSize := by
  obtain ⟨_, _, p2, _, _, _, hf⟩ := buildFromParsed_ok h
  obtain ⟨hfit, rfl⟩ := fitResult_ok hf
  exact hfit

/-- … and conversely: when the passes succeed, the build fails iff one of the three memories
    is exceeded by at least one unit (so "exactly full" builds and "one more" fails) -/
theorem limits_exact (fs : Fs) (st : PState) (p0 : PState) (p1 : Pass1Result) (p2 : Pass2Result)
    (h0 : pass0 fs st.asParseResult st.ctx = .ok p0)
    (h1 : pass1 (p0.segments.filter fun s => !s.items.isEmpty) p0.messages p0.ctx = .ok p1)
    (h2 : pass2 p1 = .ok p2) :
    (∃ r, buildFromParsed fs st = .ok r ∧ r.code = p2.code ∧ r.eeprom = p2.eeprom ∧
          r.flashSize = p2.ctx.device.flash ∧ r.eepromSize = p2.ctx.device.eeprom ∧
          r.ramSize = p2.ctx.device.ramSize ∧ r.ramFilling = p2.ramFilling) ↔
    (p2.code.length ≤ 2 * p2.ctx.device.flash ∧ p2.eeprom.length ≤ p2.ctx.device.eeprom ∧
      p2.ramFilling ≤ p2.ctx.device.ramSize) := by
  rw [buildFromParsed_bind, h0, Out.ok_bind, h1, Out.ok_bind, h2, Out.ok_bind]
  constructor
  · rintro ⟨r, hr, _⟩
    exact (fitResult_ok hr).1
  · rintro ⟨a, b, c⟩
    have c1 : ¬ p2.code.length > p2.ctx.device.flash * 2 := by omega
    have c2 : ¬ p2.eeprom.length > p2.ctx.device.eeprom := by omega
    have c3 : ¬ p2.ramFilling > p2.ctx.device.ramSize := by omega
    simp [fitResult, c1, c2, c3]

/-- pass 1 never lets a segment end beyond the capacity of its memory -/
theorem pass1_within (t : SegT) (limit : Nat) : ∀ (items : List (Nat × Item)) (cur : Nat)
    (ctx : Ctx) (e : Nat) (o : List (Nat × Item)) (c : Ctx),
    pass1Items t limit items cur ctx = .ok (e, o, c) → e ≤ limit :=
  pass1Items_induction (fun _ _ h => h) fun _ _ _ _ _ _ _ _ _ _ ih => ih

/-- selecting an unknown device is an error naming the line -/
theorem unknown_device_error (inc : IncludeFn) (cur : Str) (incs : List Str) (st : PState) (name : Str) (ln : Nat)
    (h : alookup name Gen.devices = none) :
    directiveParse inc cur incs st .device (.opList [.e (.ident name)]) ln = .error ⟨some ln, "unknown-device"⟩ := by
  simp [directiveParse, h, lineErr]

/-- selecting a second device is an error naming the line -/
theorem second_device_error (inc : IncludeFn) (cur : Str) (incs : List Str) (st : PState) (name : Str) (ln : Nat) (d : Device)
    (h : alookup name Gen.devices = some d) (hsel : st.ctx.device ≠ defaultDevice) :
    directiveParse inc cur incs st .device (.opList [.e (.ident name)]) ln = .error ⟨some ln, "device-redefinition"⟩ := by
  simp [directiveParse, h, hsel, lineErr]

/-- the first selection takes effect -/
theorem first_device_selected (inc : IncludeFn) (cur : Str) (incs : List Str) (st : PState) (name : Str) (ln : Nat) (d : Device)
    (h : alookup name Gen.devices = some d) (hsel : st.ctx.device = defaultDevice) :
    directiveParse inc cur incs st .device (.opList [.e (.ident name)]) ln =
      .ok ({ st with ctx := { st.ctx with device := d } }, incs, .newLine) := by
  simp [directiveParse, h, hsel]

end Avra.Props.C12
