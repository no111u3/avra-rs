/-
  C09 — a macro call behaves as its body with the call's arguments substituted.

  Model: `macroExpand` / `pass0Items` (builder/pass0.rs), the `Display` mirror (`iopText`,
  `exprText`), `substArgs` (`str::replace` of `@n`), macro storage in `skipStep`/`directiveParse`.
-/
import Avra.Model.Build
namespace Avra.Props.C09
open Avra.Model

/-- calling an undefined macro is an error that names the line of the call -/
theorem undefined_macro_error (fs : Fs) (macros : List (Str × List (Nat × Str))) (st : PState) (ln : Nat)
    (name : Str) (ops : List IOp) (h : alookup name macros = none) :
    macroExpand fs macros st ln name ops = .error ⟨some ln, "undefined-macro"⟩ := by
  simp [macroExpand, h, lineErr]

/-- `.macro Name` records the lower-cased name … -/
theorem macro_definition_lowercases (inc : IncludeFn) (cur : Str) (incs : List Str) (st : PState) (name : Str) (ln : Nat) :
    directiveParse inc cur incs st .macro (.opList [.e (.ident name)]) ln =
      .ok ({ st with macroName := lower name }, incs, .endMacro) :=
  rfl

/-- … under which the collected body is stored … -/
theorem macro_body_stored (st : PState) (ls : List (Nat × Str)) :
    (skipStep st .endMacro ls).1.macros = ainsert st.macroName (skipMacro [] ls).1 st.macros := by
  simp [skipStep]

/-- … and a call, in whatever letter case it is written, looks up the lower-cased word: a word
    that is no standard mnemonic parses to `Custom(lower word)` -/
theorem call_lowercases (w rest : Str) (n : Str) (hid : Peg.identText (w ++ rest) = some (n, rest))
    (hnostd : Peg.standardOperation (lower n) = none) :
    Peg.operation (w ++ rest) = some (.custom (lower n), rest) := by
  simp [Peg.operation, hid, hnostd]

/-- the text pasted for a compound expression argument is parenthesised, so that it stands for
    one operand wherever the body puts it (next to tighter or unary operators) -/
theorem compound_argument_parenthesised (op : BinOp) (l r : Expr) :
    ∃ mid, exprText (.bin op l r) = '(' :: mid ++ [')'] :=
  ⟨exprText l ++ op.text ++ exprText r, by simp [exprText]⟩

/-- registers and index forms are pasted as the operand text the grammar reads back -/
theorem register_argument_text (n : Nat) : iopText (.r8 n) = 'r' :: natToDec n := rfl
theorem index_argument_text (r : Reg16) (e : Expr) :
    iopText (.index (.postIncE r e)) = reg16Text r ++ '+' :: exprText e := rfl

/-- with no arguments the body is used as it stands; an `@n` left in a line makes that line a
    syntax error (the grammar has no `@`) — this is how "omitting an argument the body uses" fails -/
theorem no_arguments_no_substitution (l : Str) : substArgs [] l = l := by
  simp [substArgs, substArgs.go]

end Avra.Props.C09
