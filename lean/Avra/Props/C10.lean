/-
  C10 — symbols resolve by the documented binding rules or the build fails.

  Model: Avra.Model.Eval (`Ctx`, lookup order, which maps lower-case the key), pass 1 (labels),
  pass 2 (`.set`, `.def`, `.undef`), `resolve` (`get_r8` through aliases).
-/
import Avra.Lemmas.Resolve
import Avra.Lemmas.AList
namespace Avra.Props.C10
open Avra.Model

/-- names of labels, `.equ`, `.set` symbols and `pc` are matched without regard to letter case:
    two spellings with the same lower-case form resolve alike (when no case-sensitive `.define`
    flag of either spelling exists — flags are outside the property) -/
theorem lookup_case (c : Ctx) (n n' : Str) (h : lower n = lower n')
    (hd : alookup n c.defines = none) (hd' : alookup n' c.defines = none) :
    c.getExpr n = c.getExpr n' := by
  unfold Ctx.getExpr
  rw [hd, hd', h]

/-- … and so are `.def` aliases -/
theorem alias_case (c : Ctx) (n n' : Str) (h : lower n = lower n') : c.getDef n = c.getDef n' := by
  unfold Ctx.getDef; rw [h]

/-- `.set`: after an assignment a reference (in any letter case) yields the value just assigned —
    "the latest preceding assignment" (pass 2 inserts `Const(value)` under the lower-cased name;
    the model's step is this context update) -/
theorem set_latest (c : Ctx) (name ref : Str) (v : Int) (hcase : lower ref = lower name)
    (hd : alookup ref c.defines = none) (he : alookup (lower ref) c.equs = none) :
    ({ c with sets := ainsert (lower name) (.const v) c.sets } : Ctx).getExpr ref = some (.const v) := by
  unfold Ctx.getExpr
  rw [hcase] at he
  simp only [hd, he, hcase, alookup_ainsert_same]

/-- `.def`: from the definition on, the alias (in any letter case) is the register -/
theorem def_binds (c : Ctx) (alias ref : Str) (r : Nat) (hcase : lower ref = lower alias) :
    ({ c with defs := ainsert (lower alias) r c.defs } : Ctx).getDef ref = some r := by
  unfold Ctx.getDef
  simp only [hcase, alookup_ainsert_same]

/-- `.undef`: afterwards the alias is no register any more -/
theorem undef_unbinds (c : Ctx) (alias ref : Str) (hcase : lower ref = lower alias) :
    ({ c with defs := aremove (lower alias) c.defs } : Ctx).getDef ref = none := by
  unfold Ctx.getDef
  simp only [hcase, alookup_aremove]

theorem symAt_const {c : Ctx} {name : Str} {v : Int} (h : c.getExpr name = some (.const v)) :
    ∀ k, symAt c k name = .ok v
  | 0 | _ + 1 => by simp only [symAt, h]

theorem symAt_none {c : Ctx} {name : Str} (h : c.getExpr name = none) : ∀ k, symAt c k name = .err .missingIdent
  | 0 | _ + 1 => by simp only [symAt, h]

theorem eval_const_symbol (c : Ctx) (name : Str) (v : Int) (h : c.getExpr name = some (.const v)) :
    eval c (.ident name) = .ok v :=
  symAt_const h _

/-- a reference to a name that is nothing (no flag, .equ, .set, pc, label) fails to evaluate —
    it never silently becomes 0 -/
theorem undefined_is_error (c : Ctx) (name : Str) (h : c.getExpr name = none) :
    eval c (.ident name) = .err .missingIdent :=
  symAt_none h _

/-- … and an instruction whose register operand is an alias that is not (or no longer) defined
    is rejected -/
theorem dead_alias_is_bad (c : Ctx) (name : Str) (h : c.getDef name = none) :
    resolveOne c .reg (.e (.ident name)) = some .bad := by
  simp only [resolveOne, asReg, h]

/-- an operand that is an alias of register `n` resolves exactly like the register written out
    (in every operand position, whatever accessor the mnemonic applies there), provided the name
    is not also an expression symbol — which the `exist` checks of `.def`/`.set`/`.equ`/labels
    rule out -/
theorem alias_resolves_as_register (c : Ctx) (a : Acc) (name : Str) (n : Nat)
    (hdef : c.getDef name = some n) (hnoexpr : c.getExpr name = none) :
    resolveOne c a (.e (.ident name)) = resolveOne c a (.r8 n) := by
  cases a with
  | reg => simp only [resolveOne, asReg, hdef]
  | val => simp only [resolveOne, asVal, undefined_is_error c name hnoexpr]
  | idx => rfl

/-- hence an instruction using an alias assembles to the same bytes as one using the register -/
theorem alias_same_bytes (c : Ctx) (op : Op) (name : Str) (n : Nat) (pre post : List IOp) (addr : Nat)
    (hdef : c.getDef name = some n) (hnoexpr : c.getExpr name = none) :
    process c op (pre ++ .e (.ident name) :: post) addr = process c op (pre ++ .r8 n :: post) addr := by
  have hres : ∀ (accs : List Acc) (pre : List IOp),
      resolve c accs (pre ++ .e (.ident name) :: post) = resolve c accs (pre ++ .r8 n :: post) := by
    intro accs pre
    induction pre generalizing accs with
    | nil =>
      cases accs with
      | nil => simp [resolve]
      | cons a as => simp only [List.nil_append, resolve, alias_resolves_as_register c a name n hdef hnoexpr]
    | cons x xs ih =>
      cases accs with
      | nil => simp only [List.cons_append, resolve, ih []]
      | cons a as => simp only [List.cons_append, resolve, ih as]
  unfold process
  simp only [List.length_append, List.length_cons, hres]

/-! non-vacuity -/
example : lower "TmP1".toList = lower "tmp1".toList := by decide

end Avra.Props.C10
