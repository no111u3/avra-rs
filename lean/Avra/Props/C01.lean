/-
  C01 — every valid instruction assembles to its exact AVR ISA machine code.

  The theorems are about the model of `instruction::process` (Avra.Model.Encode, tied to /repo by
  the Gen tables and the correspondence run) against the independent ISA (Avra.Isa).
-/
import Avra.Props.Enc
import Avra.Lemmas.Resolve
namespace Avra.Props.C01
open Avra.Model Avra.Isa Avra.Lemmas Avra.Props.Enc

/-- standard mnemonic (not a macro call) -/
def isStd (op : Op) : Prop := ∀ n, op ≠ .custom n

/-- C01, full strength at the level of one instruction: whenever the independent legality spec
    says that mnemonic `op` with the operands as resolved in context `c` denotes the AVR
    instruction `i` (any mnemonic, any legal operand tuple, any expression operands, any `.def`
    aliases, either core, any address), `process` emits exactly the ISA words of `i`, low byte
    first. -/
theorem process_complete (c : Ctx) (op : Op) (args : List IOp) (addr : Nat) (r : List AArg) (i : Instr)
    (hstd : isStd op) (hc : ctxRegsOk c) (hargs : iopsOk args)
    (hres : resolve c (accessors op) args = some r)
    (hleg : surface c.device.isAvr8l op r addr = some i) :
    process c op args addr = .ok (Isa.bytes (encode i)) := by
  have hr := resolve_regsOk c hc _ _ _ hargs hres
  rw [process_eq c op args addr r hres, model_eq_spec _ op r addr hstd hr]
  simp [sWords, hleg]

/-- the number of words emitted is the length the opcode table announces (used by the layout
    property C02): one word, two for jmp/call and classic-core lds/sts -/
theorem words_count (i : Instr) : (encode i).length = match i with
    | .abs _ _ | .lds _ _ | .sts _ _ => 2
    | _ => 1 := by
  cases i <;> simp [encode]

/-- byte order: low byte first, two bytes per word -/
theorem bytes_le (ws : List Nat) : (Isa.bytes ws).length = 2 * ws.length := by
  induction ws with
  | nil => simp [Isa.bytes]
  | cons w ws ih => simp [Isa.bytes] at *; omega

theorem bytes_words (ws : List Nat) : (Isa.bytes ws).length / 2 = ws.length := by
  rw [bytes_le]; omega

/-- the reading of a pattern by maximal runs (used for speed in the kernel) and the bit-by-bit
    reading agree on every pattern of the ISA file, for sample field values of all-ones (every
    field bit placed) — a cross-check of the pattern compiler, not a property theorem -/
theorem word_is_bitwise_rr : ∀ o : RROp, word (rrPat o) [(fld!"d", 31), (fld!"r", 31)] =
    wordBitwise (rrPat o) [(fld!"d", 31), (fld!"r", 31)] := by
  intro o; cases o <;> decide

/-! non-vacuity: concrete instances of the hypotheses -/

/-- a classic-core context without symbols -/
def exCtx : Ctx := { device := { flash := 4194304, ramStart := 96, ramSize := 8388608, eeprom := 65536, opts := [] } }


example : process exCtx .ldi [.r8 16, .e (.const 255)] 0 = .ok [0x0f, 0xef] := by decide
example : surface false .ldi [.reg 16, .val 255] 0 = some (.imm .ldi 16 255) := by decide
example : process exCtx .jmp [.e (.const 0x12345)] 0 = .ok [0x0d, 0x94, 0x45, 0x23] := by decide

end Avra.Props.C01
