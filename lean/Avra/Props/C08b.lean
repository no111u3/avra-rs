/-
  C08, from the line loop to the build: "the result is identical to the program with the
  unselected lines deleted", stated for `build_str` itself.
-/
import Avra.Props.C08
import Avra.Model.Build
namespace Avra.Props.C08b
open Avra.Model Avra.Spec Avra.Lemmas.Iter Avra.Props.C08

/-- `build_str` on a text that is already cut into numbered lines (every line keeps its own
    number, so that deleting lines does not renumber the others: errors and messages name the
    same lines before and after) -/
def buildLines (fs : Fs) (ls : List Line) : Out BuildResult :=
  match parseIter fs fs.cwd [] (PState.init initCtx) .newLine ls with
  | .ok (st, _) => buildFromParsed fs st
  | .error e => .error e
  | .panic p => .panic p
  | .oof => .oof

theorem buildStr_eq (fs : Fs) (src : Str) : buildStr fs src = buildLines fs (numbered (lines src)) := by
  unfold buildStr buildLines parseStr
  cases parseIter fs fs.cwd [] (PState.init initCtx) .newLine (numbered (lines src)) <;> rfl

theorem buildLines_congr (fs : Fs) (ls ls' : List Line)
    (h : runFrom (parseFileAt fs includeDepth) fs.cwd (PState.init initCtx, []) .newLine ls =
      runFrom (parseFileAt fs includeDepth) fs.cwd (PState.init initCtx, []) .newLine ls') :
    buildLines fs ls = buildLines fs ls' := by
  unfold buildLines parseIter
  unfold runFrom at h
  rw [h]

/-- **C08 for the whole build.**  A program that consists of conditional constructs and plain
    lines in any arrangement (a well-formed `Blocks` tree: any nesting, any number of `.elif`
    arms, arbitrary text in the branches) builds to EXACTLY the same result — images, sizes,
    messages, or the same error with the same line number — as the program in which every
    unselected line and every `.if/.ifdef/.ifndef/.elif/.else/.endif` line is deleted (`ls`: the
    plain lines of the selected branches, in order, with their original numbers). -/
theorem build_unselected_deleted (fs : Fs) (bs : Blocks) (hwf : bs.wf) (s' : MSt) (ls : List Line)
    (hsel : bs.sel (mExec (parseFileAt fs includeDepth) fs.cwd) (mHolds (parseFileAt fs includeDepth) fs.cwd)
              (PState.init initCtx, []) = .ok (s', ls)) :
    buildLines fs bs.flatten = buildLines fs ls := by
  have h := unselected_deleted (parseFileAt fs includeDepth) fs.cwd bs hwf (PState.init initCtx, []) s' ls [] hsel
  simp only [List.append_nil] at h
  exact buildLines_congr fs _ _ h

/-- … and in the words of `build_str`: when the lines of a source text are such a tree -/
theorem build_str_unselected_deleted (fs : Fs) (src : Str) (bs : Blocks) (hwf : bs.wf)
    (hsrc : numbered (lines src) = bs.flatten) (s' : MSt) (ls : List Line)
    (hsel : bs.sel (mExec (parseFileAt fs includeDepth) fs.cwd) (mHolds (parseFileAt fs includeDepth) fs.cwd)
              (PState.init initCtx, []) = .ok (s', ls)) :
    buildStr fs src = buildLines fs ls := by
  rw [buildStr_eq, hsrc]
  exact build_unselected_deleted fs bs hwf s' ls hsel

end Avra.Props.C08b
