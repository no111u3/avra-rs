/-
  C09, the splice: what pass 0 does with the segments an expansion yields.  A call of a macro
  whose substituted body parses to plain items in the segment the call stands in is replaced by
  exactly those items, in order, at the place of the call — "assembles exactly what its body
  would assemble at that point".
-/
import Avra.Props.C09
namespace Avra.Props.C09b
open Avra.Model

def NoCalls (items : List (Nat × Item)) : Prop := ∀ ln name ops, (ln, Item.instruction (.custom name) ops) ∉ items

def pushAll (st : PState) (items : List (Nat × Item)) : PState :=
  items.foldl (fun st x => st.pushToLast x.1 x.2) st

/-- items without macro calls pass through pass 0 unchanged, whatever the nesting level -/
theorem pass0Items_plain (fs : Fs) (macros : List (Str × List (Nat × Str))) (allow : Bool)
    (inner : PState → List (Nat × Item) → Out PState) :
    ∀ (items : List (Nat × Item)) (st : PState), NoCalls items →
      pass0Items fs macros allow inner st items = .ok (pushAll st items) := by
  intro items
  induction items with
  | nil => intro st _; rfl
  | cons x xs ih =>
    intro st h
    obtain ⟨ln, it⟩ := x
    rw [pass0Items]
    · exact ih _ fun ln name ops hm => h ln name ops (List.mem_cons_of_mem _ hm)
    · exact fun name ops he => h ln name ops (he ▸ List.mem_cons_self)

/-- **Macros calling macros.**  The items of an expansion are themselves run through pass 0, one
    nesting level deeper, from the state the body's lines left; after them pass 0 goes on behind
    the call.  (One segment, in place; `macro_call_splices` is the case without inner calls.) -/
theorem macro_call_expands_body (fs : Fs) (macros : List (Str × List (Nat × Str))) (d : Nat) (st st1 : PState)
    (ln : Nat) (name : Str) (ops : List IOp) (rest : List (Nat × Item)) (s0 : Segment)
    (hexp : macroExpand fs macros st ln name ops = .ok (st1, [s0]))
    (hsame : s0.address = st1.lastSeg.address ∧ s0.t = st1.lastSeg.t) :
    pass0At fs macros (d + 1) st ((ln, .instruction (.custom name) ops) :: rest) =
      match pass0At fs macros d st1 s0.items with
      | .ok st3 => pass0At fs macros (d + 1) st3 rest
      | .error e => .error e
      | .panic p => .panic p
      | .oof => .oof := by
  rw [pass0At, pass0Items]
  simp only [hexp, hsame.1, hsame.2, Bool.not_true, Bool.false_eq_true, ne_eq, not_true, or_self, if_false]
  cases pass0At fs macros d st1 s0.items <;> rfl

/-- **The splice.**  A macro call whose expansion is one segment of plain items, in the segment
    and at the address the call stands in (no `.org`, no segment directive in the body): pass 0
    goes on after the call exactly as if the items of the expansion — what the body parses to with
    the arguments substituted — had stood in place of the call.  At every nesting level below the
    limit; the context, macro table and messages are those the body's lines left. -/
theorem macro_call_splices (fs : Fs) (macros : List (Str × List (Nat × Str))) (d : Nat) (st st1 : PState)
    (ln : Nat) (name : Str) (ops : List IOp) (rest : List (Nat × Item)) (s0 : Segment)
    (hexp : macroExpand fs macros st ln name ops = .ok (st1, [s0]))
    (hsame : s0.address = st1.lastSeg.address ∧ s0.t = st1.lastSeg.t)
    (hplain : NoCalls s0.items) :
    pass0At fs macros (d + 1) st ((ln, .instruction (.custom name) ops) :: rest) =
    pass0At fs macros (d + 1) (pushAll st1 s0.items) rest := by
  have hp : pass0At fs macros d st1 s0.items = .ok (pushAll st1 s0.items) := by
    cases d <;> exact pass0Items_plain fs macros _ _ s0.items st1 hplain
  rw [macro_call_expands_body fs macros d st st1 ln name ops rest s0 hexp hsame, hp]

/-- an expansion that yields nothing (an empty body, or only lines that leave no item): the call
    disappears -/
theorem empty_expansion (fs : Fs) (macros : List (Str × List (Nat × Str))) (d : Nat) (st st1 : PState)
    (ln : Nat) (name : Str) (ops : List IOp) (rest : List (Nat × Item))
    (hexp : macroExpand fs macros st ln name ops = .ok (st1, [])) :
    pass0At fs macros (d + 1) st ((ln, .instruction (.custom name) ops) :: rest) =
    pass0At fs macros (d + 1) st1 rest := by
  rw [pass0At, pass0Items]
  simp only [hexp, Bool.not_true, Bool.false_eq_true, if_false]

/-- a failing expansion (a body line that does not parse, `.error` in the body, a missing macro)
    fails the build with the error of the expansion -/
theorem failing_expansion (fs : Fs) (macros : List (Str × List (Nat × Str))) (d : Nat) (st : PState)
    (ln : Nat) (name : Str) (ops : List IOp) (rest : List (Nat × Item)) (e : Err)
    (hexp : macroExpand fs macros st ln name ops = .error e) :
    pass0At fs macros (d + 1) st ((ln, .instruction (.custom name) ops) :: rest) = .error e := by
  rw [pass0At, pass0Items]
  simp only [hexp, Bool.not_true, Bool.false_eq_true, if_false]

/-- at the nesting limit a call is an error naming the call -/
theorem too_deep (fs : Fs) (macros : List (Str × List (Nat × Str))) (st : PState)
    (ln : Nat) (name : Str) (ops : List IOp) (rest : List (Nat × Item)) :
    pass0At fs macros 0 st ((ln, .instruction (.custom name) ops) :: rest) = .error ⟨some ln, "macro-depth"⟩ :=
  rfl

end Avra.Props.C09b
