/-
  C09, read-back — the text `Display` prints for an expression (every compound parenthesised, no
  blanks) is one of the `Spaced` writings of C05pp, so `expr()` reads it back as that expression.
-/
import Avra.Props.C05pp
namespace Avra.Props.C09
open Avra.Model Avra.Peg Avra.Lemmas.Fuel Avra.Props.C14 Avra.Props.C05pp

theorem spaced_exprText (e : Expr) (h : Wf e) : ∀ m, Spaced m top e (exprText e) := by
  induction h with
  | ident s hs => exact fun m => .ident m s hs
  | const v n hv hn => exact fun m => .const m v n hv hn
  | func name a hn _ ih =>
    intro m
    have := Spaced.func m top name a [] [] [] _ hn blanks_nil blanks_nil blanks_nil (ih 0)
    simpa [exprText] using this
  | un u e _ ih => exact fun m => .un m top u e [] _ blanks_nil (ih top)
  | bin op l r _ _ ihl ihr =>
    intro m
    have := Spaced.paren m _ (.bin op l r) [] [] _ blanks_nil blanks_nil
      (.bin 0 top top op l r [] [] _ _ (Nat.not_lt_zero _) blanks_nil blanks_nil (ihl _) (ihr _))
    simpa [exprText] using this

/-- **the text pasted for an expression argument reads back as the same expression**: as an
    operand (read at level `top`), at every fuel from `need` on -/
theorem argument_text_reads_back (e : Expr) (h : Wf e) : Reads e := fun rest hr f hf =>
  have hs := spaced_exprText e h top
  Ans.at_fuel (persistPA _)
    (evPA_of_top _ e rest (closedS top top e _ hs (goesS _ _ _ _ hs) rest (atomEndB_of rest hr)
      (endAt_top top (Nat.le_refl _) rest)))
    (prefixAtom_no_oof _ f hf)

theorem reads_ident (s : Str) (hs : isName s) : Reads (.ident s) := argument_text_reads_back _ (.ident s hs)

/-- … through `expr()` itself, with the fuel `expr()` takes, wherever the text ends an operand -/
theorem expr_reads_back (e : Expr) (h : Wf e) (rest : Str) (hr : AtomEnd rest) (ho : OpEnd rest) :
    expr (exprText e ++ rest) = .ok e rest :=
  parse_print_spaced top e _ (spaced_exprText e h 0) rest (atomEndB_of rest hr) fun x hx => Or.inr (ho x hx)

/-- **the round trip**: any text `expr()` accepts yields an expression whose pasted text `expr()`
    reads back as the same expression -/
theorem paste_round_trip (s : Str) (e : Expr) (r : Str) (h : expr s = .ok e r)
    (rest : Str) (hr : AtomEnd rest) (ho : OpEnd rest) : expr (exprText e ++ rest) = .ok e rest :=
  expr_reads_back e (expr_wf s e r h) rest hr ho

end Avra.Props.C09
