/-
  C04 — operands the ISA cannot encode are rejected, never mis-encoded.
-/
import Avra.Props.C01
namespace Avra.Props.C04
open Avra.Model Avra.Isa Avra.Lemmas Avra.Props.Enc Avra.Props.C01

/-- C04, full strength at the level of one instruction, for ALL operand lists (any number, any
    kinds), all i64 values, both cores: if `process` succeeds then the legality spec accepts the
    operands as some instruction `i` and the bytes are exactly the ISA encoding of `i`. -/
theorem process_sound (c : Ctx) (op : Op) (args : List IOp) (addr : Nat) (r : List AArg) (bs : List Nat)
    (hstd : isStd op) (hc : ctxRegsOk c) (hargs : iopsOk args)
    (hres : resolve c (accessors op) args = some r)
    (hok : process c op args addr = .ok bs) :
    ∃ i, surface c.device.isAvr8l op r addr = some i ∧ bs = Isa.bytes (encode i) := by
  have hr := resolve_regsOk c hc _ _ _ hargs hres
  rw [process_eq c op args addr r hres, model_eq_spec _ op r addr hstd hr] at hok
  unfold sWords at hok
  cases hs : surface c.device.isAvr8l op r addr with
  | none => simp [hs] at hok
  | some i =>
    simp [hs] at hok
    exact ⟨i, rfl, hok.symm⟩

/-- the contrapositive the property names: what the ISA cannot encode is an error -/
theorem process_rejects (c : Ctx) (op : Op) (args : List IOp) (addr : Nat) (r : List AArg)
    (hstd : isStd op) (hc : ctxRegsOk c) (hargs : iopsOk args)
    (hres : resolve c (accessors op) args = some r)
    (hill : surface c.device.isAvr8l op r addr = none) :
    process c op args addr = .err := by
  have hr := resolve_regsOk c hc _ _ _ hargs hres
  rw [process_eq c op args addr r hres, model_eq_spec _ op r addr hstd hr]
  simp [sWords, hill]

/-- `process` never panics: its outcomes are ok / error / out of fuel of the evaluator -/
theorem process_total (c : Ctx) (op : Op) (args : List IOp) (addr : Nat) :
    (∃ bs, process c op args addr = .ok bs) ∨ process c op args addr = .err ∨ process c op args addr = .oof := by
  cases h : process c op args addr with
  | ok bs => exact Or.inl ⟨bs, rfl⟩
  | err => exact Or.inr (Or.inl rfl)
  | oof => exact Or.inr (Or.inr rfl)

/-! non-vacuity and the rejections the property names -/

example : surface false .ldi [.reg 5, .val 1] 0 = none := by decide            -- low register
example : surface false .movw [.reg 17, .reg 18] 0 = none := by decide         -- odd register
example : surface false .adiw [.reg 25, .val 1] 0 = none := by decide          -- not r24/26/28/30
example : surface false .fmul [.reg 24, .reg 16] 0 = none := by decide         -- outside r16-r23
example : surface false .sbrc [.reg 1, .val (-1)] 0 = none := by decide        -- negative bit number
example : surface false .nop [.reg 1] 0 = none := by decide                    -- surplus operand
example : surface false .add [.reg 1] 0 = none := by decide                    -- missing operand
example : surface true .lds [.reg 3, .val 0x50] 0 = none := by decide          -- reduced core, low register
example : process exCtx .ldi [.r8 5, .e (.const 1)] 0 = .err := by decide

end Avra.Props.C04
