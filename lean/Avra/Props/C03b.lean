/-
  C03, from the single instruction to pass 2: the address the displacement is taken from is the
  address pass 2 emits the instruction at, the target is what the operand expression evaluates to
  there (a label: the position pass 1 recorded, C02; `pc`: the instruction's own address), and an
  unreachable target ends the build with an error that names the line.
-/
import Avra.Props.C03
import Avra.Props.C10
import Avra.Lemmas.Passes
namespace Avra.Props.C03b
open Avra.Model Avra.Isa Avra.Lemmas Avra.Props.Enc Avra.Props.C03 Avra.Props.C10

theorem instruction_words (t : SegT) (ln : Nat) (op : Op) (args : List IOp) (rest : List (Nat × Item))
    (cur : Nat) (acc : List Nat) (ctx : Ctx) :
    pass2Items t ((ln, .instruction op args) :: rest) cur acc ctx =
      if checkInstruction ctx.device op args then
        match mWords ctx.device.isAvr8l op (resolved (atPc ctx cur) (accessors op) args) cur with
        | some ws => pass2Items t rest (cur + ws.length) (acc ++ Isa.bytes ws) (atPc ctx cur)
        | none => .error ⟨some ln, "instruction"⟩
      else .error ⟨some ln, "not-allowed-for-device"⟩ := by
  rw [pass2Items_instruction, process_eq _ _ _ _ _ (resolve_eq _ _ _), show (atPc ctx cur).device = ctx.device from rfl]
  cases mWords ctx.device.isAvr8l op (resolved (atPc ctx cur) (accessors op) args) cur with
  | none => rfl
  | some ws => simp only [C01.bytes_words]

theorem resolved_val {c : Ctx} {op : Op} {e : Expr} {v : Int} (ha : accessors op = [.val]) (hev : eval c e = .ok v) :
    resolved c (accessors op) [.e e] = [.val v] := by
  simp only [ha, resolved, resolveOne, asVal, hev, Option.getD_some]

/-- C03 inside pass 2, `rjmp`/`rcall` with ANY operand expression: when the expression evaluates
    (with `pc` = the instruction's own address) to `target`, the item assembles iff the displacement
    `target − (cur+1)` fits 12 bits, to exactly the ISA word of that displacement, and pass 2
    goes on one word further; otherwise the build fails naming the line. -/
theorem rel_item (t : SegT) (ln : Nat) (call : Bool) (e : Expr) (rest : List (Nat × Item))
    (cur : Nat) (acc : List Nat) (ctx : Ctx) (target : Int)
    (hev : eval (atPc ctx cur) e = .ok target) :
    pass2Items t ((ln, .instruction (if call then .rcall else .rjmp) [.e e]) :: rest) cur acc ctx =
      if -2048 ≤ relOf cur target ∧ relOf cur target ≤ 2047
      then pass2Items t rest (cur + 1) (acc ++ Isa.bytes (encode (.rel call (relOf cur target)))) (atPc ctx cur)
      else .error ⟨some ln, "instruction"⟩ := by
  rw [instruction_words, if_pos (by cases call <;> rfl), resolved_val (by cases call <;> rfl) hev,
    (rjmp_exact _ call cur target).1]
  by_cases h : -2048 ≤ relOf cur target ∧ relOf cur target ≤ 2047
  · rw [if_pos h, if_pos h]; rfl
  · rw [if_neg h, if_neg h]

/-- the same for the 18 named conditional branches: 7-bit displacement -/
theorem br_item (t : SegT) (ln : Nat) (bt : BranchT) (clear : Bool) (s : Nat)
    (hb : branchFlag bt = some (clear, s)) (e : Expr) (rest : List (Nat × Item))
    (cur : Nat) (acc : List Nat) (ctx : Ctx) (target : Int)
    (hev : eval (atPc ctx cur) e = .ok target) :
    pass2Items t ((ln, .instruction (.br bt) [.e e]) :: rest) cur acc ctx =
      if -64 ≤ relOf cur target ∧ relOf cur target ≤ 63
      then pass2Items t rest (cur + 1) (acc ++ Isa.bytes (encode (.brb clear s (relOf cur target)))) (atPc ctx cur)
      else .error ⟨some ln, "instruction"⟩ := by
  have ha : accessors (.br bt) = [.val] := by cases bt <;> first | rfl | cases hb
  rw [instruction_words, if_pos (by rfl), resolved_val ha hev, (branch_exact _ bt clear s hb cur target).1]
  by_cases h : -64 ≤ relOf cur target ∧ relOf cur target ≤ 63
  · rw [if_pos h, if_pos h]; rfl
  · rw [if_neg h, if_neg h]

/-- what a label reference evaluates to in pass 2: the position pass 1 recorded — when the name is
    not `pc` and no `.define`/`.equ`/`.set` of that name exists (the `exist` checks at every
    definition site keep the name classes disjoint) -/
theorem label_operand (ctx : Ctx) (cur : Nat) (name : Str) (seg : SegT) (pos : Nat)
    (hd : alookup name ctx.defines = none) (he : alookup (lower name) ctx.equs = none)
    (hs : alookup (lower name) ctx.sets = none) (hsp : alookup (lower name) ctx.special = none)
    (hpc : lower name ≠ "pc".toList)
    (hl : alookup (lower name) ctx.labels = some (seg, pos)) :
    eval (atPc ctx cur) (.ident name) = .ok (pos : Int) := by
  apply eval_const_symbol
  have : alookup (lower name) (ainsert "pc".toList (Expr.const (cur : Int)) ctx.special) = none := by
    rw [alookup_ainsert_other _ _ _ _ fun h => hpc h.symm]; exact hsp
  unfold Ctx.getExpr
  simp only [atPc, hd, he, hs, this, hl, Option.map]

/-- `pc` in an operand is the address of the instruction itself (unless the program has defined a
    symbol of that name itself) -/
theorem pc_operand (ctx : Ctx) (cur : Nat)
    (hd : alookup "pc".toList ctx.defines = none) (he : alookup "pc".toList ctx.equs = none)
    (hs : alookup "pc".toList ctx.sets = none) :
    eval (atPc ctx cur) (.ident "pc".toList) = .ok (cur : Int) := by
  apply eval_const_symbol
  have hl : lower "pc".toList = "pc".toList := by decide
  unfold Ctx.getExpr
  simp only [atPc, hd, hl, he, hs, alookup_ainsert_same]

/-- C03 for a jump to a LABEL, in one statement: `rjmp name` / `rcall name` at address `cur`,
    the label recorded at `pos`: the build goes on iff `pos − (cur+1)` fits the field; the field
    of the emitted word, sign-extended, is that displacement, so the jump reaches
    `cur + 1 + d = pos` — the label, exactly. -/
theorem jump_reaches_label (t : SegT) (ln : Nat) (call : Bool) (name : Str) (rest : List (Nat × Item))
    (cur : Nat) (acc : List Nat) (ctx : Ctx) (seg : SegT) (pos : Nat)
    (hd : alookup name ctx.defines = none) (he : alookup (lower name) ctx.equs = none)
    (hs : alookup (lower name) ctx.sets = none) (hsp : alookup (lower name) ctx.special = none)
    (hpc : lower name ≠ "pc".toList)
    (hl : alookup (lower name) ctx.labels = some (seg, pos)) :
    let d : Int := (pos : Int) - ((cur : Int) + 1)
    pass2Items t ((ln, .instruction (if call then .rcall else .rjmp) [.e (.ident name)]) :: rest) cur acc ctx =
      (if -2048 ≤ d ∧ d ≤ 2047
       then pass2Items t rest (cur + 1) (acc ++ Isa.bytes (encode (.rel call d))) (atPc ctx cur)
       else .error ⟨some ln, "instruction"⟩) ∧
    (-2048 ≤ d ∧ d ≤ 2047 → signExt 12 (twos 12 d) = d ∧ (pos : Int) = (cur : Int) + 1 + d) := by
  refine ⟨?_, fun h => ⟨signExt_twos12 _ h, by omega⟩⟩
  exact rel_item t ln call _ rest cur acc ctx pos (label_operand ctx cur name seg pos hd he hs hsp hpc hl)

/-- … and for a conditional branch to a label -/
theorem branch_reaches_label (t : SegT) (ln : Nat) (bt : BranchT) (clear : Bool) (s : Nat)
    (hb : branchFlag bt = some (clear, s)) (name : Str) (rest : List (Nat × Item))
    (cur : Nat) (acc : List Nat) (ctx : Ctx) (seg : SegT) (pos : Nat)
    (hd : alookup name ctx.defines = none) (he : alookup (lower name) ctx.equs = none)
    (hs : alookup (lower name) ctx.sets = none) (hsp : alookup (lower name) ctx.special = none)
    (hpc : lower name ≠ "pc".toList)
    (hl : alookup (lower name) ctx.labels = some (seg, pos)) :
    let d : Int := (pos : Int) - ((cur : Int) + 1)
    pass2Items t ((ln, .instruction (.br bt) [.e (.ident name)]) :: rest) cur acc ctx =
      (if -64 ≤ d ∧ d ≤ 63
       then pass2Items t rest (cur + 1) (acc ++ Isa.bytes (encode (.brb clear s d))) (atPc ctx cur)
       else .error ⟨some ln, "instruction"⟩) ∧
    (-64 ≤ d ∧ d ≤ 63 → signExt 7 (twos 7 d) = d ∧ (pos : Int) = (cur : Int) + 1 + d) := by
  refine ⟨?_, fun h => ⟨signExt_twos7 _ h, by omega⟩⟩
  exact br_item t ln bt clear s hb _ rest cur acc ctx pos (label_operand ctx cur name seg pos hd he hs hsp hpc hl)

/-- a pc-relative target `pc + k` (`rjmp pc+3`, `brne pc-2`): the displacement is `k − 1`, whatever
    the address -/
theorem pc_relative_target (ctx : Ctx) (cur : Nat) (k : Int)
    (hd : alookup "pc".toList ctx.defines = none) (he : alookup "pc".toList ctx.equs = none)
    (hs : alookup "pc".toList ctx.sets = none) (hfit : inI64 ((cur : Int) + k)) :
    eval (atPc ctx cur) (.bin .add (.ident "pc".toList) (.const k)) = .ok ((cur : Int) + k) ∧
    relOf cur ((cur : Int) + k) = k - 1 := by
  constructor
  · show (match eval (atPc ctx cur) (.ident "pc".toList) with | .ok a => binEval .add a k | x => x) = _
    simp only [pc_operand ctx cur hd he hs, binEval, checked, hfit, if_true]
  · unfold relOf; omega

/-! non-vacuity: a backward jump to a label at word 3 from word 5 (d = −3), and the limits -/

def exCtx : Ctx :=
  { device := { flash := 4194304, ramStart := 96, ramSize := 8388608, eeprom := 65536, opts := [] },
    labels := [("loop".toList, (.code, 3))] }

example := jump_reaches_label .code 1 false "Loop".toList [] 5 [] exCtx .code 3
  (by decide) (by decide) (by decide) (by decide) (by decide) (by decide)
example : ((3 : Int) - ((5 : Int) + 1) = -3) ∧ twos 12 (-3) = 0xffd := by decide
example : encode (.rel false (-3)) = [0xcffd] := by decide

end Avra.Props.C03b
